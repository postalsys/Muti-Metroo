/-
  C38 (StreamIDAllocator): one `Next()` as an equation (`next_eq`) and the closed form of a run — the
  k-th step from `c` returns `(c + 2k) mod 2^64` (`run_ids`).
-/
import MM.Model.C38
namespace MM.C38

theorem delta_eq : Gen.C38.delta = 2 := by decide
theorem W_eq : W = 18446744073709551616 := by decide

theorem next_eq {ctr : Nat} (h : ctr < W) : next ctr = ((ctr + 2) % W, ctr) := by
  unfold next
  rw [delta_eq]
  simp only [W_eq] at *
  exact congrArg (Prod.mk _) (by omega)

theorem run_ids (c : Nat) (hc : c < W) (sched : List Nat) :
    (run c sched).map (·.2) = (List.range sched.length).map (fun k => (c + 2 * k) % W) := by
  induction sched generalizing c with
  | nil => rfl
  | cons g rest ih =>
    simp only [run, next_eq hc, List.map_cons, List.length_cons, List.range_succ_eq_map,
      List.map_map]
    rw [ih _ (Nat.mod_lt _ (by decide))]
    congr 1
    · exact (Nat.mod_eq_of_lt hc).symm
    · apply List.map_congr_left
      intro k _
      show ((c + 2) % W + 2 * k) % W = (c + 2 * (k + 1)) % W
      rw [Nat.mod_add_mod, show c + 2 + 2 * k = c + 2 * (k + 1) by omega]

theorem start_true : start true = 1 := rfl
theorem start_false : start false = 2 := rfl

theorem start_le (d : Bool) : start d ≤ 2 := by cases d <;> decide

theorem start_lt (d : Bool) : start d < W := Nat.lt_of_le_of_lt (start_le d) (by decide)

end MM.C38

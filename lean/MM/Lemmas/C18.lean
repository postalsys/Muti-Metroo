/-
  C18 — the transitions of the stream LTS as a relation (`Step`), and its invariants
  (helpers for MM/Props/C18.lean).
-/
import MM.Model.C18

namespace MM.C18
variable {α : Type}

/-! Each stream operation as one record update. -/
section fields
variable (s : Stream α)

theorem closeWrite_eq : s.closeWrite = { s with
    localFin := true
    state := if s.localFin then s.state else match s.state with | .open_ => .hcl | .hcr => .closed | st => st } := by
  obtain ⟨st, lf, _, _, _, _, _⟩ := s
  cases lf <;> cases st <;> rfl

theorem finState_eq :
    s.finState = { s with state := match s.state with | .open_ => .hcr | .hcl => .closed | st => st } := by
  obtain ⟨st, _, _, _, _, _, _⟩ := s
  cases st <;> rfl

theorem closeBegin_eq :
    s.closeBegin = { s with once := true, state := if s.once then s.state else .closed } := by
  obtain ⟨_, _, _, _, o, _, _⟩ := s
  cases o <;> rfl

theorem closeWrite_remoteFin : s.closeWrite.remoteFin = s.remoteFin := by rw [closeWrite_eq]
theorem finState_remoteFin : s.finState.remoteFin = s.remoteFin := by rw [finState_eq]
theorem closeBegin_closed : s.closeBegin.closed = s.closed := by rw [closeBegin_eq]
theorem closeBegin_buf : s.closeBegin.buf = s.buf := by rw [closeBegin_eq]
theorem closeBegin_remoteFin : s.closeBegin.remoteFin = s.remoteFin := by rw [closeBegin_eq]
theorem closeBegin_localFin : s.closeBegin.localFin = s.localFin := by rw [closeBegin_eq]
end fields

theorem edge_refl (a : St) : edge a a = true := by cases a <;> rfl

theorem edge_finState (s : Stream α) : edge s.state s.finState.state = true := by
  rw [finState_eq]
  cases s.state <;> rfl

theorem edge_closeWrite (s : Stream α) : edge s.state s.closeWrite.state = true := by
  rw [closeWrite_eq]
  cases s.localFin <;> cases s.state <;> rfl

theorem edge_closeBegin (s : Stream α) : edge s.state s.closeBegin.state = true := by
  rw [closeBegin_eq]
  cases s.once <;> cases s.state <;> rfl

/-- `Step ff x l y` is `step ff x l = some y` (`step_iff`) with one constructor per branch of `step`:
    the guard of the branch as hypotheses, the successor written out.  Everything that is proved of
    "one step" is proved by cases on this relation. -/
inductive Step (ff : Bool) (x : Sys α) : Label → Sys α → Prop
  | nextData {fin p fs} (ht : x.todo = []) (hf : x.frames = .data fin p :: fs) (hr : x.reg = true) :
      Step ff x .hNext
        { x with frames := fs, todo := program ff (.data fin p), arrived := x.arrived ++ p.toList,
                 arrivedAtFin := if fin && x.arrivedAtFin.isNone then some (x.arrived ++ p.toList)
                                 else x.arrivedAtFin }
  | nextCtl {f fs} (ht : x.todo = []) (hf : x.frames = f :: fs) (hr : x.reg = true)
      (hc : f = .close ∨ f = .reset) : Step ff x .hNext { x with frames := fs, todo := [.unreg, .closeB] }
  | nextSkip {f fs} (ht : x.todo = []) (hf : x.frames = f :: fs) (hr : x.reg = false) :
      Step ff x .hNext { x with frames := fs }
  | pushChk {p t} (ht : x.todo = .pushChk p :: t) (hc : x.s.closed = false) :
      Step ff x .hStep { x with todo := t }
  | pushEof {p t} (ht : x.todo = .pushChk p :: t) (hc : x.s.closed = true) :
      Step ff x .hStep { x with todo := [], dropped := true }
  | pushEnq {p t} (ht : x.todo = .pushEnq p :: t) (hl : x.s.buf.length < cap) :
      Step ff x .hStep
        { x with s := { x.s with buf := x.s.buf ++ [p] }, pushed := x.pushed ++ [p], todo := t }
  | abort {p t} (ht : x.todo = .pushEnq p :: t) (hc : x.s.closed = true) :
      Step ff x .hAbort { x with todo := [], dropped := true }
  | finSkip {t} (ht : x.todo = .finMark :: t) (hf : x.s.remoteFin = true) :
      Step ff x .hStep { x with todo := t.drop 2 }
  | finMark {t} (ht : x.todo = .finMark :: t) (hf : x.s.remoteFin = false) :
      Step ff x .hStep { x with s := { x.s with remoteFin := true }, todo := t }
  | finSignal {t} (ht : x.todo = .finSignal :: t) :
      Step ff x .hStep { x with s := { x.s with finCh := true }, todo := t }
  | finState {t} (ht : x.todo = .finState :: t) :
      Step ff x .hStep { x with s := x.s.finState, todo := t }
  | unreg {t} (ht : x.todo = .unreg :: t) : Step ff x .hStep { x with reg := false, todo := t }
  | closeB {t} (ht : x.todo = .closeB :: t) : Step ff x .hStep { x with s := x.s.closeBegin, todo := t }
  | deliver {l c b}
      (hl : l = .rStart ∧ x.rpc = .idle ∨ l = .rSelData ∧ x.rpc = .sel ∨ l = .rDrain ∧ x.rpc = .drain)
      (hb : x.s.buf = c :: b) : Step ff x l (deliver x c b)
  | park (hr : x.rpc = .idle) (hb : x.s.buf = []) : Step ff x .rStart { x with rpc := .sel }
  | selFin (hr : x.rpc = .sel) (hf : x.s.finCh = true) : Step ff x .rSelFin { x with rpc := .drain }
  | selClosed (hr : x.rpc = .sel) (hc : x.s.closed = true) : Step ff x .rSelClosed { x with rpc := .drain }
  | eof (hr : x.rpc = .drain) (hb : x.s.buf = []) :
      Step ff x .rDrain { x with rpc := .idle, eof := x.eof.or (some (x.delivered, x.s.closed)) }
  | ack (ho : x.s.state = .opening) :
      Step ff x .ack { x with s := { x.s with state := .open_ }, reg := true }
  | closeWrite (ho : x.s.state ≠ .opening) : Step ff x .lCloseWrite { x with s := x.s.closeWrite }
  | close (ho : x.s.state ≠ .opening) : Step ff x .lClose { x with s := x.s.closeBegin }
  | closeEnd (ho : x.s.once = true) (hc : x.s.closed = false) :
      Step ff x .closeEnd { x with s := { x.s with closed := true } }

theorem Step.of_step {ff : Bool} {x y : Sys α} {l : Label} (h : step ff x l = some y) : Step ff x l y := by
  revert h
  fun_cases step ff x l
  · fun_cases stepNext ff x <;> intro h <;> cases h
    · next fs ht hr fin p _ hf =>
      cases p with
      | some c => exact .nextData ht hf hr
      | none => simpa using Step.nextData (ff := ff) ht hf hr
    · next f fs hf ht hr hnd =>
      cases f with
      | data fin p => exact absurd rfl (hnd fin p)
      | close => exact .nextCtl ht hf hr (.inl rfl)
      | reset => exact .nextCtl ht hf hr (.inr rfl)
    · next hf ht hr => exact .nextSkip ht hf (by simpa using hr)
  · fun_cases stepMicro x <;> intro h <;> cases h
    · next ht hc => exact .pushEof ht hc
    · next ht hc => exact .pushChk ht (by simpa using hc)
    · next ht hl => exact .pushEnq ht hl
    · next ht hf => exact .finSkip ht hf
    · next ht hf => exact .finMark ht (by simpa using hf)
    · next ht => exact .finSignal ht
    · next ht => exact .finState ht
    · next ht => exact .unreg ht
    · next ht => exact .closeB ht
  · fun_cases stepAbort x <;> intro h <;> cases h
    next ht hc => exact .abort ht hc
  all_goals intro h <;> cases h
  · next hr c b hb => exact .deliver (.inl ⟨rfl, hr⟩) hb
  · next hr hb => exact .park hr hb
  · next hr c b hb => exact .deliver (.inr (.inl ⟨rfl, hr⟩)) hb
  · next hc => exact .selFin hc.1 hc.2
  · next hc => exact .selClosed hc.1 hc.2
  · next hr c b hb => exact .deliver (.inr (.inr ⟨rfl, hr⟩)) hb
  · next hr hb =>
    have := Step.eof (ff := ff) hr hb
    cases he : x.eof <;> rw [he] at this <;> exact this
  · next ho => exact .ack ho
  · next ho => exact .closeWrite ho
  · next ho => exact .close ho
  · next hc => exact .closeEnd hc.1 hc.2

/-- A transition stays enabled, with the same effect, when more frames arrive later (what the engine does op
    by op); for `fs = []` this is the converse of `Step.of_step`. -/
theorem Step.step_ext {ff : Bool} {x y : Sys α} {l : Label} (fs : List (Frame α)) (h : Step ff x l y) :
    step ff { x with frames := x.frames ++ fs } l = some { y with frames := y.frames ++ fs } := by
  cases h with
  | @nextData fin p fs' ht hf hr => cases p <;> simp [step, stepNext, ht, hf, hr]
  | nextCtl ht hf hr hc => rcases hc with rfl | rfl <;> simp [step, stepNext, ht, hf, hr, program]
  | nextSkip ht hf hr => simp [step, stepNext, ht, hf, hr]
  | pushChk ht h | pushEof ht h | pushEnq ht h | finSkip ht h | finMark ht h => simp [step, stepMicro, ht, h]
  | finSignal ht | finState ht | unreg ht | closeB ht => simp [step, stepMicro, ht]
  | abort ht hc => simp [step, stepAbort, ht, hc]
  | deliver hl hb => rcases hl with ⟨rfl, hr⟩ | ⟨rfl, hr⟩ | ⟨rfl, hr⟩ <;> simp [step, C18.deliver, hr, hb]
  | park hr h | selFin hr h | selClosed hr h => simp [step, hr, h]
  | eof hr hb => cases x.eof <;> simp [step, hr, hb]
  | ack ho | closeWrite ho | close ho => simp [step, ho]
  | closeEnd ho hc => simp [step, ho, hc]

theorem step_iff {ff : Bool} {x y : Sys α} {l : Label} : step ff x l = some y ↔ Step ff x l y :=
  ⟨Step.of_step, fun h => by simpa only [List.append_nil] using h.step_ext []⟩

/-! ### invariants that hold for either code order -/

structure Inv1 (x : Sys α) : Prop where
  queue : x.pushed = x.delivered ++ x.s.buf
  dropClosed : x.dropped = true → x.s.closed = true
  closedOnce : x.s.closed = true → x.s.once = true
  onceState : x.s.once = true → x.s.state = .closed
  lfin : x.s.localFin = true → x.s.state = .hcl ∨ x.s.state = .closed
  opening : x.s.state = .opening → x.reg = false ∧ x.todo = [] ∧ x.s.localFin = false ∧ x.s.once = false
  drain : x.rpc = .drain → x.s.finCh = true ∨ x.s.closed = true
  prefixA : ∀ a, x.arrivedAtFin = some a → a <+: x.arrived
  hclFin : x.s.state = .hcl → x.s.localFin = true

theorem Inv1.busy {x : Sys α} (hi : Inv1 x) {m : Micro α} {t : List (Micro α)} (ht : x.todo = m :: t) :
    x.s.state ≠ .opening :=
  fun ho => by simp [(hi.opening ho).2.1] at ht

theorem inv1_closeBegin {x : Sys α} {t : List (Micro α)} (hi : Inv1 x) (hop : x.s.state ≠ .opening) :
    Inv1 { x with s := x.s.closeBegin, todo := t } := by
  fun_cases Stream.closeBegin x.s
  · exact { hi with opening := fun ho => absurd ho hop }
  · exact { hi with closedOnce := fun _ => rfl, onceState := fun _ => rfl, lfin := fun _ => .inr rfl,
                    opening := nofun, hclFin := nofun }

theorem inv1_finState {x : Sys α} {t : List (Micro α)} (hi : Inv1 x) (hop : x.s.state ≠ .opening) :
    Inv1 { x with s := x.s.finState, todo := t } := by
  fun_cases Stream.finState x.s
  · next hs =>
    exact { hi with onceState := fun ho => by simp [hi.onceState ho] at hs,
                    lfin := fun hl => by simpa [hs] using hi.lfin hl, opening := nofun, hclFin := nofun }
  · exact { hi with onceState := fun _ => rfl, lfin := fun _ => .inr rfl, opening := nofun, hclFin := nofun }
  · exact { hi with opening := fun ho => absurd ho hop }

theorem inv1_closeWrite {x : Sys α} (hi : Inv1 x) (hop : x.s.state ≠ .opening) :
    Inv1 { x with s := x.s.closeWrite } := by
  fun_cases Stream.closeWrite x.s
  · exact { hi with }
  · next hl hs =>
    exact { hi with onceState := fun ho => by simp [hi.onceState ho] at hs, lfin := fun _ => .inl rfl,
                    opening := nofun, hclFin := fun _ => rfl }
  · exact { hi with onceState := fun _ => rfl, lfin := fun _ => .inr rfl, opening := nofun, hclFin := nofun }
  · next hl ho hr =>
    -- neither `open_` nor `hcr`, not `opening`, and not `hcl` since `localFin` is unset: closed already
    have hc : x.s.state = .closed := by
      cases hs : x.s.state with
      | opening => exact absurd hs hop
      | open_ => exact absurd hs ho
      | hcl => exact absurd (hi.hclFin hs) hl
      | hcr => exact absurd hs hr
      | closed => rfl
    exact { hi with lfin := fun _ => .inr hc, opening := fun h => absurd h hop, hclFin := fun _ => rfl }

theorem inv1_step {ff : Bool} {x y : Sys α} {l : Label} (hi : Inv1 x) (h : Step ff x l y) : Inv1 y := by
  have reg : x.reg = true → x.s.state ≠ .opening := fun hr ho => by simp [(hi.opening ho).1] at hr
  cases h with
  | nextData ht hf hr =>
    refine { hi with opening := fun ho => absurd ho (reg hr), prefixA := fun a ha => ?_ }
    dsimp only at ha
    split at ha
    · cases ha; exact List.prefix_refl _
    · exact (hi.prefixA a ha).trans (List.prefix_append _ _)
  | nextCtl ht hf hr hc => exact { hi with opening := fun ho => absurd ho (reg hr) }
  | nextSkip ht hf hr => exact { hi with opening := fun ho => ⟨(hi.opening ho).1, ht, (hi.opening ho).2.2⟩ }
  | pushChk ht _ | finSkip ht _ | finMark ht _ | unreg ht =>
    exact { hi with opening := fun ho => absurd ho (hi.busy ht) }
  | pushEof ht hc | abort ht hc =>
    exact { hi with dropClosed := fun _ => hc, opening := fun ho => absurd ho (hi.busy ht) }
  | pushEnq ht hl =>
    exact { hi with queue := by simp [hi.queue], opening := fun ho => absurd ho (hi.busy ht) }
  | finSignal ht =>
    exact { hi with opening := fun ho => absurd ho (hi.busy ht), drain := fun _ => .inl rfl }
  | finState ht => exact inv1_finState hi (hi.busy ht)
  | closeB ht => exact inv1_closeBegin hi (hi.busy ht)
  | deliver hl hb => exact { hi with queue := by simp [deliver, hi.queue, hb], drain := nofun }
  | park | eof => exact { hi with drain := nofun }
  | selFin hr hf => exact { hi with drain := fun _ => .inl hf }
  | selClosed hr hc => exact { hi with drain := fun _ => .inr hc }
  | ack ho =>
    obtain ⟨_, _, hl, hn⟩ := hi.opening ho
    exact { hi with onceState := fun hh => by simp [hn] at hh, lfin := fun hh => by simp [hl] at hh,
                    opening := nofun, hclFin := nofun }
  | closeWrite ho => exact inv1_closeWrite hi ho
  | close ho => exact inv1_closeBegin hi ho
  | closeEnd ho hc =>
    exact { hi with dropClosed := fun _ => rfl, closedOnce := fun _ => ho,
                    drain := fun hd => (hi.drain hd).imp_right fun _ => rfl }

theorem inv1_reachable {ff : Bool} {x : Sys α} (h : Reachable ff x) : Inv1 x := by
  induction h with
  | init acc fr =>
    cases acc
    · exact ⟨rfl, nofun, nofun, nofun, nofun, fun _ => ⟨rfl, rfl, rfl, rfl⟩, nofun, nofun, nofun⟩
    · exact ⟨rfl, nofun, nofun, nofun, nofun, nofun, nofun, nofun, nofun⟩
  | step l _ hs ih => exact inv1_step ih (step_iff.1 hs)

/-! ### invariants of the repaired code order (`ff = false`) -/

/-- At a FIN sub-step no payload is left to queue and `ok` holds (`ok`: the first FIN's arrival has been
    recorded); true of the repaired code order. -/
def Safe (ok : Prop) : List (Micro α) → Prop
  | [] => True
  | m :: t => (m.isFin = true → pendOf t = [] ∧ ok) ∧ Safe ok t

/-! Every sub-step leaves a suffix of the todo list; `Safe` and `pendOf` are monotone in it. -/

theorem Safe.suffix {ok : Prop} {t' t : List (Micro α)} (hs : Safe ok t) (h : t' <:+ t) : Safe ok t' := by
  obtain ⟨l, rfl⟩ := h
  induction l with
  | nil => exact hs
  | cons _ _ ih => exact ih hs.2

theorem pendOf_suffix {t' t : List (Micro α)} (h : t' <:+ t) : pendOf t' <:+ pendOf t := by
  obtain ⟨l, rfl⟩ := h
  induction l with
  | nil => exact List.suffix_refl _
  | cons m _ ih =>
    cases m with
    | pushEnq p => exact ih.trans (List.suffix_cons _ _)
    | _ => exact ih

theorem safe_program {ok : Prop} {fin : Bool} (p : Option α) (h : fin = true → ok) :
    Safe ok (program false (.data fin p)) := by
  cases fin <;> cases p <;> simp [program, pushPart, finPart, Safe, Micro.isFin, pendOf, h]

theorem pendOf_program (fin : Bool) (p : Option α) : pendOf (program false (.data fin p)) = p.toList := by
  cases fin <;> cases p <;> rfl

structure Inv2 (x : Sys α) : Prop where
  acct : x.dropped = false → x.pushed ++ pendOf x.todo = x.arrived
  safe : Safe (x.arrivedAtFin.isSome = true) x.todo
  finch : x.s.finCh = true → x.dropped = false → ∃ a, x.arrivedAtFin = some a ∧ a <+: x.pushed
  eofOk : ∀ d, x.eof = some (d, false) → ∃ a, x.arrivedAtFin = some a ∧ a <+: d

/-- A sub-step that leaves the ghost variables alone and advances the todo list to a suffix with the same
    payloads still to queue, whatever it does to the stream and to `reg`; `hf`: what the new `finCh` promises. -/
theorem Inv2.advance {x : Sys α} (hj : Inv2 x) {m : Micro α} {t t' : List (Micro α)} (ht : x.todo = m :: t)
    (hsuf : t' <:+ t) (hp : pendOf t' = pendOf (m :: t)) {s' : Stream α} {r' : Bool}
    (hf : s'.finCh = true → x.dropped = false → ∃ a, x.arrivedAtFin = some a ∧ a <+: x.pushed) :
    Inv2 { x with s := s', reg := r', todo := t' } :=
  { hj with
    acct := fun hd => (hp.trans (congrArg pendOf ht.symm)) ▸ hj.acct hd
    safe := hj.safe.suffix (ht ▸ hsuf.trans (List.suffix_cons m t))
    finch := hf }

theorem inv2_step {x y : Sys α} {l : Label} (hi : Inv1 x) (hj : Inv2 x) (h : Step false x l y) : Inv2 y := by
  have ⟨acct, safe, finch, eofOk⟩ := hj
  cases h with
  | @nextData fin p fs ht hf hr =>
    exact {
      acct := fun hd => by
        show x.pushed ++ pendOf (program false (.data fin p)) = x.arrived ++ p.toList
        rw [pendOf_program, ← acct hd, ht, pendOf, List.append_nil]
      safe := safe_program p fun hfin => by subst hfin; cases x.arrivedAtFin <;> rfl
      finch := fun hc hd => (finch hc hd).imp fun _ h => ⟨by simp [h.1], h.2⟩
      eofOk := fun d hd => (eofOk d hd).imp fun _ h => ⟨by simp [h.1], h.2⟩ }
  | nextCtl ht hf hr hc => exact { hj with acct := ht ▸ acct, safe := ⟨nofun, nofun, trivial⟩ }
  | pushChk ht _ | finMark ht _ | unreg ht => exact hj.advance ht (List.suffix_refl _) rfl finch
  | finState ht => exact hj.advance ht (List.suffix_refl _) rfl (finState_eq x.s ▸ finch)
  | closeB ht => exact hj.advance ht (List.suffix_refl _) rfl (closeBegin_eq x.s ▸ finch)
  | @finSkip t ht hf =>
    -- nothing is pending behind a FIN sub-step, so skipping the other two loses nothing
    have hp : pendOf t = [] := ((ht ▸ safe).1 rfl).1
    exact hj.advance ht (List.drop_suffix 2 t)
      ((List.suffix_nil.1 (hp ▸ pendOf_suffix (List.drop_suffix 2 t))).trans hp.symm) finch
  | @finSignal t ht =>
    -- FIN is signalled after the frame's payload was queued: everything that arrived has been pushed
    obtain ⟨hp, hs⟩ := (ht ▸ safe).1 rfl
    obtain ⟨a, ha⟩ := Option.isSome_iff_exists.1 hs
    refine hj.advance ht (List.suffix_refl _) rfl fun _ hd => ⟨a, ha, ?_⟩
    have := acct hd
    rw [ht, show pendOf (.finSignal :: t) = pendOf t from rfl, hp, List.append_nil] at this
    exact this ▸ hi.prefixA a ha
  | pushEof | abort =>
    -- the push was refused (`io.EOF`): the rest of the frame is abandoned
    exact { hj with acct := nofun, safe := trivial, finch := fun _ => nofun }
  | pushEnq ht hl =>
    rw [ht] at acct safe
    exact { hj with
      acct := fun hd => by simpa [pendOf] using acct hd
      safe := safe.2
      finch := fun hc hd => (finch hc hd).imp fun _ h => ⟨h.1, h.2.trans (List.prefix_append _ _)⟩ }
  | eof hr hb =>
    refine { hj with eofOk := fun d hd => ?_ }
    rcases Option.or_eq_some_iff.1 hd with he | ⟨_, he⟩
    · exact eofOk d he
    · -- first EOF, stream not closed: the reader was released by the FIN signal and has drained the buffer
      obtain ⟨rfl, hcl⟩ := Prod.mk.inj (Option.some.inj he)
      have hnd : x.dropped = false := Bool.eq_false_iff.2 fun hd => nomatch (hi.dropClosed hd).symm.trans hcl
      obtain ⟨a, ha, hp⟩ := finch ((hi.drain hr).resolve_right (hcl ▸ nofun)) hnd
      rw [hi.queue, hb, List.append_nil] at hp
      exact ⟨a, ha, hp⟩
  | closeWrite => exact { hj with finch := closeWrite_eq x.s ▸ finch }
  | close => exact { hj with finch := closeBegin_eq x.s ▸ finch }
  | _ => exact { hj with }

theorem inv2_reachable {x : Sys α} (h : Reachable false x) : Inv2 x := by
  induction h with
  | init acc fr => cases acc <;> exact ⟨fun _ => rfl, trivial, nofun, nofun⟩
  | step l hr hs ih => exact inv2_step (inv1_reachable hr) ih (step_iff.1 hs)

end MM.C18

/-
  C20 — the key → target map (`lookup`), and what the wire keeps of an address written by `DialForward`.
-/
import MM.Model.C20

namespace MM.C20

theorem lookup_some {τ : Type} {eps : List (Endpoint τ)} {k : Bytes} {t : τ} (h : lookup eps k = some t) :
    ∃ ep ∈ eps, ep.key = k ∧ ep.target = t := by
  revert h
  fun_induction lookup eps k <;> intro h <;> cases h
  · next ih hr =>
    obtain ⟨e, he, hk⟩ := ih hr
    exact ⟨e, List.mem_cons_of_mem _ he, hk⟩
  · next ep _ _ _ => exact ⟨ep, List.mem_cons_self, rfl, rfl⟩

theorem lookup_none_iff {τ : Type} (eps : List (Endpoint τ)) (k : Bytes) :
    lookup eps k = none ↔ ∀ ep ∈ eps, ep.key ≠ k := by
  fun_induction lookup eps k
  · simp
  · next _ _ _ _ hr _ =>
    obtain ⟨e, he, hk, _⟩ := lookup_some hr
    exact ⟨nofun, fun h => absurd hk (h e (List.mem_cons_of_mem _ he))⟩
  · next ep _ _ _ => exact ⟨nofun, fun h => absurd rfl (h ep List.mem_cons_self)⟩
  · next _ _ _ hr hk ih =>
    exact ⟨fun _ e he => (List.mem_cons.1 he).elim (· ▸ hk) (ih.1 hr e), fun _ => rfl⟩

/-- What the exit node reads as domain string of an address written by `DialForward`: the one-byte
    length (taken modulo 256) cuts `forward:` + key. -/
theorem domainString_wire_ingress (key : Bytes) :
    domainString (wireAddr (ingressAddr key)) =
      (forwardPrefix ++ key).take ((forwardPrefix.length + key.length) % 256) := by
  rw [ingressAddr, wireAddr, domainString, UInt8.toNat_ofNat', Nat.mod_mod]
  rfl

end MM.C20

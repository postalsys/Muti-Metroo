/-
  C07 lemmas.  The chunk loop, on bytes and on lengths.  What the engine prints about a frame (`lf`)
  agrees with the byte-level model layer by layer (`mkFrames`, `gate`, `framesOf`).  One sealed
  message `s` on its way: if it fits the path's frame it goes out whole
  (`framesOf_fit`); if not, nothing of it opens at the far end (`receive_big`).
-/
import MM.Model.C07

namespace MM.C07

theorem chunks_nil {α : Type} (n : Nat) : chunks n ([] : List α) = [] := by
  rw [chunks, dif_pos (.inr rfl)]

theorem chunks_zero {α : Type} (b : List α) : chunks 0 b = [] := by
  rw [chunks, dif_pos (.inl rfl)]

theorem chunks_cons {α : Type} {n : Nat} {b : List α} (hn : 0 < n) (hb : b ≠ []) :
    chunks n b = b.take n :: chunks n (b.drop n) := by
  rw [chunks, dif_neg (not_or.mpr ⟨Nat.ne_of_gt hn, hb⟩)]

theorem chunks_mem {α : Type} {n : Nat} (b : List α) :
    ∀ c ∈ chunks n b, c.length ≤ n ∧ c ≠ [] := by
  fun_induction chunks n b with
  | case1 => nofun
  | case2 b h ih =>
    exact List.forall_mem_cons.mpr
      ⟨⟨List.length_take_le _ _, fun h0 => h (List.take_eq_nil_iff.mp h0)⟩, ih⟩

theorem chunks_single {α : Type} {n : Nat} {b : List α} (hb : 0 < b.length) (h : b.length ≤ n) :
    chunks n b = [b] := by
  rw [chunks_cons (Nat.lt_of_lt_of_le hb h) (List.length_pos_iff.mp hb), List.take_of_length_le h,
    List.drop_of_length_le h, chunks_nil]

theorem chunkLens_zero_len (n : Nat) : chunkLens n 0 = [] := by
  rw [chunkLens, dif_pos (.inr rfl)]

theorem chunkLens_zero (len : Nat) : chunkLens 0 len = [] := by
  rw [chunkLens, dif_pos (.inl rfl)]

theorem chunkLens_cons {n len : Nat} (hn : 0 < n) (hl : 0 < len) :
    chunkLens n len = min n len :: chunkLens n (len - n) := by
  rw [chunkLens, dif_neg (not_or.mpr ⟨Nat.ne_of_gt hn, Nat.ne_of_gt hl⟩), ← Nat.sub_max_sub_left,
    Nat.sub_self, Nat.max_zero]

theorem chunkLens_single {n len : Nat} (h0 : 0 < len) (h : len ≤ n) : chunkLens n len = [len] := by
  rw [chunkLens_cons (Nat.lt_of_lt_of_le h0 h) h0, Nat.min_eq_right h, Nat.sub_eq_zero_of_le h,
    chunkLens_zero_len]

theorem chunks_lens {α : Type} (n : Nat) (b : List α) :
    (chunks n b).map List.length = chunkLens n b.length := by
  fun_induction chunks n b with
  | case1 b h => rw [chunkLens, dif_pos (h.imp_right fun hb => hb ▸ rfl)]; rfl
  | case2 b h ih =>
    have hb : 0 < b.length := List.length_pos_iff.mpr fun hb => h (.inr hb)
    have hn : 0 < n := Nat.pos_of_ne_zero fun hn => h (.inl hn)
    rw [List.map_cons, ih, chunkLens_cons hn hb, List.length_take, List.length_drop]

theorem chunkLens_mem (n len : Nat) : ∀ l ∈ chunkLens n len, l ≤ n ∧ 0 < l ∧ l ≤ len := by
  fun_induction chunkLens n len with
  | case1 => nofun
  | case2 len h ih =>
    intro l hl
    rcases List.mem_cons.mp hl with rfl | hl
    · have ⟨hn, hl⟩ := not_or.mp h
      exact ⟨Nat.min_le_left _ _, Nat.lt_min.mpr ⟨Nat.pos_of_ne_zero hn, Nat.pos_of_ne_zero hl⟩,
        Nat.min_le_right _ _⟩
    · obtain ⟨h1, h2, h3⟩ := ih l hl
      exact ⟨h1, h2, Nat.le_trans h3 (Nat.sub_le _ _)⟩

theorem chunkLens_sum {n : Nat} (hn : 0 < n) (len : Nat) : (chunkLens n len).sum = len := by
  fun_induction chunkLens n len with
  | case1 len h => exact (h.resolve_left (Nat.ne_of_gt hn)).symm
  | case2 len h ih => rw [List.sum_cons, ih, Nat.add_sub_cancel' (Nat.min_le_right _ _)]

theorem mkFrames_len (s : Sealed) (ls : List Nat) (off : Nat) : (mkFrames s off ls).map Frame.len = ls := by
  induction ls generalizing off with
  | nil => rfl
  | cons l ls ih => rw [mkFrames, List.map_cons, ih]

theorem gate_mem (m : Nat) (fs : List Frame) : ∀ f ∈ (gate m fs).1, f.len ≤ m := by
  fun_induction gate m fs with
  | case1 => nofun
  | case2 g gs hg ih => exact List.forall_mem_cons.mpr ⟨hg, ih⟩
  | case3 => nofun

theorem gate_all {m : Nat} {fs : List Frame} (h : ∀ f ∈ fs, f.len ≤ m) : gate m fs = (fs, true) := by
  induction fs with
  | nil => rfl
  | cons g gs ih => rw [gate, if_pos (h g (.head _)), ih fun f hf => h f (.tail _ hf)]

theorem openF_whole (c : Cfg) (s : Sealed) : openF c ⟨s, 0, s.length c⟩ = some s.plain :=
  if_pos ⟨rfl, rfl⟩

theorem openF_slice {c : Cfg} {f : Frame} (h : ¬(f.off = 0 ∧ f.len = f.ct.length c)) :
    openF c f = none :=
  if_neg h

/-- what the engine prints about a frame: its payload length and whether the far end can open it -/
def lf (c : Cfg) (f : Frame) : Nat × Bool := (f.len, (openF c f).isSome)

theorem gate_map (c : Cfg) (m : Nat) (fs : List Frame) :
    gateLF m (fs.map (lf c)) = ((gate m fs).1.map (lf c), (gate m fs).2) := by
  fun_induction gate m fs with
  | case1 => rfl
  | case2 g gs hg ih => rw [List.map_cons, gateLF, if_pos (show (lf c g).1 ≤ m from hg), ih]; rfl
  | case3 g gs hg => rw [List.map_cons, gateLF, if_neg (show ¬(lf c g).1 ≤ m from hg)]; rfl

theorem mkFrames_lf_pos (c : Cfg) (s : Sealed) (ls : List Nat) (off : Nat) (hoff : 0 < off) :
    (mkFrames s off ls).map (lf c) = ls.map (·, false) := by
  induction ls generalizing off with
  | nil => rfl
  | cons l ls ih =>
    rw [mkFrames, List.map_cons, List.map_cons, ih _ (Nat.add_pos_left hoff l), lf,
      openF_slice fun h => Nat.ne_of_gt hoff h.1]
    rfl

theorem framesOf_lf (c : Cfg) (p : Path) (s : Sealed) :
    (framesOf c p s).map (lf c) = framesLF c p (s.length c) := by
  -- cases of `framesLF`: re-sliced into nothing, re-sliced into `l :: ls`, sent whole
  fun_cases framesLF c p (s.length c)
  case case1 hr hc => rw [framesOf, if_pos hr, hc]; rfl
  case case2 hr l ls hc =>
    have hl : 0 < l := (chunkLens_mem _ _ l (hc ▸ List.mem_cons_self)).2.1
    rw [framesOf, if_pos hr, hc, mkFrames, List.map_cons, Nat.zero_add, mkFrames_lf_pos c s ls l hl,
      lf]
    by_cases h : l = s.length c
    · rw [h, openF_whole, decide_eq_true rfl]; rfl
    · rw [openF_slice fun h' => h h'.2, decide_eq_false h]; rfl
  case case3 hr => rw [framesOf, if_neg hr, List.map_cons, lf, openF_whole]; rfl

theorem hdrOf_length (p : Path) : (hdrOf p).length = p.hdr := List.length_replicate

theorem sealed_length (c : Cfg) (p : Path) (seq : Nat) (x : Bytes) :
    Sealed.length c ⟨seq, hdrOf p ++ x⟩ = p.hdr + x.length + c.overhead := by
  rw [Sealed.length, List.length_append, hdrOf_length]

theorem sealed_fits {c : Cfg} {p : Path} {x : Bytes} (hx : x.length ≤ p.bufSize)
    (hfit : p.bufSize + p.hdr + c.overhead ≤ frameCap c p) (seq : Nat) :
    Sealed.length c ⟨seq, hdrOf p ++ x⟩ ≤ frameCap c p := by
  rw [sealed_length]; omega

theorem frameCap_rechunk (c : Cfg) {p : Path} (h : p.rechunk = true) :
    frameCap c p = min c.rechunkAt c.maxPayload := if_pos h

theorem frameCap_whole (c : Cfg) {p : Path} (h : ¬p.rechunk = true) : frameCap c p = c.maxPayload :=
  if_neg h

theorem frameCap_le (c : Cfg) (p : Path) : frameCap c p ≤ c.maxPayload := by
  fun_cases frameCap c p
  · exact Nat.min_le_right _ _
  · exact Nat.le_refl _

variable {c : Cfg} {p : Path} {s : Sealed}

/-- One whole frame — or nothing at all, when the re-slicing loop is handed an empty ciphertext. -/
theorem framesOf_fit (hfit : s.length c ≤ frameCap c p) :
    framesOf c p s = [⟨s, 0, s.length c⟩] ∨ framesOf c p s = [] ∧ s.plain = [] := by
  fun_cases framesOf c p s
  case case2 => exact .inl rfl
  case case1 hr =>
    rw [frameCap_rechunk c hr] at hfit
    by_cases h0 : s.length c = 0
    · rw [h0, chunkLens_zero_len]
      exact .inr ⟨rfl, List.eq_nil_of_length_eq_zero (Nat.eq_zero_of_add_eq_zero_right h0)⟩
    · rw [chunkLens_single (Nat.pos_of_ne_zero h0) (Nat.le_trans hfit (Nat.min_le_left _ _))]
      exact .inl rfl

/-- A non-empty piece whose message does not fit: `Frame.Encode` lets nothing of it through, or what
    gets through starts with a proper slice of the ciphertext, which does not open. -/
theorem receive_big {x : Bytes} (seq : Nat) (hx : 0 < x.length)
    (hbig : frameCap c p < p.hdr + x.length + c.overhead) :
    receive c p (sendPieces c p seq [x]) ≠ some x := by
  have nil : receive c p [] ≠ some x := fun h => by cases h; cases hx
  rw [← sealed_length c p seq x] at hbig
  -- of a single piece, what is sent is what the gate lets through
  rw [sendPieces, sendPieces, List.append_nil, ite_self]
  generalize (⟨seq, hdrOf p ++ x⟩ : Sealed) = s at hbig ⊢
  fun_cases framesOf c p s
  case case2 hr =>
    rw [frameCap_whole c hr] at hbig
    rw [gate, if_neg (Nat.not_le.mpr hbig)]
    exact nil
  case case1 hr =>
    rw [frameCap_rechunk c hr] at hbig
    cases hc : chunkLens c.rechunkAt (s.length c) with
    | nil => exact nil
    | cons l ls =>
      have hl : l ≤ c.rechunkAt := (chunkLens_mem _ _ l (hc ▸ List.mem_cons_self)).1
      rw [mkFrames, gate]
      by_cases hg : l ≤ c.maxPayload
      · -- a first slice as long as the whole ciphertext would fit both limits
        rw [if_pos hg, receive, openF_slice]
        · nofun
        · exact fun h =>
            Nat.not_le.mpr hbig (Nat.le_trans (Nat.le_of_eq h.2.symm) (Nat.le_min.mpr ⟨hl, hg⟩))
      · rw [if_neg hg]; exact nil

end MM.C07

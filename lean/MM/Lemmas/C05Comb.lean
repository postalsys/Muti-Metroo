/-
  Equations of the codec combinators of MM/Model/C05Comb.lean.

  Every primitive except `bool` parses exactly its own encodings (`Codec.Exact`), which gives its
  laws at once.  For the combinators, `X_dec_some` says what a successful parse is made of, and
  `X_wf` / `X_enc_length` say what `wf` and the encoded length of a composite are; proofs about a
  concrete codec use these instead of unfolding the combinators.  The laws themselves are composed
  in MM/Lemmas/C05Alloc.lean (`Codec.Lawful`).
-/
import MM.Model.C05Comb

namespace MM.C05

def Codec.MinLen (c : Codec α) (n : Nat) : Prop := ∀ a, c.wf a = true → n ≤ (c.enc a).length

def Codec.LenExact (c : Codec α) : Prop :=
  ∀ bs a rest, c.dec bs = some (a, rest) → (c.enc a).length + rest.length = bs.length

def Codec.Exact (c : Codec α) : Prop :=
  ∀ bs a rest, c.dec bs = some (a, rest) ↔ c.wf a = true ∧ bs = c.enc a ++ rest

theorem Codec.LenExact.shrinks {c : Codec α} (h : c.LenExact) : c.Shrinks :=
  fun bs a rest hd => Nat.le.intro (Nat.add_comm .. ▸ h bs a rest hd)

theorem Codec.Exact.lenExact {c : Codec α} (h : c.Exact) : c.LenExact :=
  fun bs a rest hd => by rw [((h bs a rest).mp hd).2, List.length_append]

/-- Reading `k` bytes: the length test of `be`, `bytesN`, `lp`, `peek1`, `fwdPrefix` and `listN`. -/
theorem cut_some {β : Type} {k : Nat} {bs : Bytes} {f : Bytes → Bytes → Option β} {y : β} :
    (if k ≤ bs.length then f (bs.take k) (bs.drop k) else none) = some y ↔
      ∃ pre r, pre.length = k ∧ bs = pre ++ r ∧ f pre r = some y := by
  constructor
  · intro h
    split at h
    · next hk => exact ⟨_, _, List.length_take_of_le hk, (List.take_append_drop k bs).symm, h⟩
    · cases h
  · rintro ⟨pre, r, rfl, rfl, h⟩
    rw [if_pos (by simp), List.take_left' rfl, List.drop_left' rfl, h]

/-! ### be, bool -/

@[simp] theorem be_wf {k n : Nat} : (be k).wf n = true ↔ n < 256 ^ k := decide_eq_true_iff

@[simp] theorem be_enc_length (k n : Nat) : ((be k).enc n).length = k := beN_length k n

theorem be_exact (k : Nat) : (be k).Exact := by
  intro bs n rest
  refine (cut_some (f := fun pre r => some (unbe pre, r))).trans ?_
  simp only [Option.some.injEq, Prod.mk.injEq, be_wf]
  constructor
  · rintro ⟨pre, r, rfl, rfl, rfl, rfl⟩
    exact ⟨unbe_lt pre, congrArg (· ++ r) (beN_unbe pre).symm⟩
  · rintro ⟨hn, rfl⟩
    exact ⟨beN k n, rest, beN_length k n, rfl, unbe_beN_of_lt hn, rfl⟩

@[simp] theorem bool_enc_length (b : Bool) : (bool.enc b).length = 1 := rfl

/-! ### bytesN -/

@[simp] theorem bytesN_wf {n : Nat} {b : Bytes} : (bytesN n).wf b = true ↔ b.length = n :=
  beq_iff_eq

@[simp] theorem bytesN_enc (n : Nat) (b : Bytes) : (bytesN n).enc b = b := rfl

theorem bytesN_exact (n : Nat) : (bytesN n).Exact := by
  intro bs b rest
  refine (cut_some (f := fun pre r => some (pre, r))).trans ?_
  simp only [Option.some.injEq, Prod.mk.injEq, bytesN_wf, bytesN_enc]
  constructor
  · rintro ⟨pre, r, rfl, rfl, rfl, rfl⟩
    exact ⟨rfl, rfl⟩
  · rintro ⟨rfl, rfl⟩
    exact ⟨_, _, rfl, rfl, rfl, rfl⟩

/-! ### lp -/

@[simp] theorem lp_wf {k : Nat} {s : Bytes} : (lp k).wf s = true ↔ s.length < 256 ^ k :=
  decide_eq_true_iff

theorem lp_enc (k : Nat) (s : Bytes) : (lp k).enc s = beN k s.length ++ s := rfl

@[simp] theorem lp_enc_length (k : Nat) (s : Bytes) : ((lp k).enc s).length = k + s.length := by
  rw [lp_enc, List.length_append, beN_length]

theorem lp_exact (k : Nat) : (lp k).Exact := by
  intro bs s rest
  refine (cut_some (f := fun pre d =>
    if unbe pre ≤ d.length then some (d.take (unbe pre), d.drop (unbe pre)) else none)).trans ?_
  rw [lp_wf]
  constructor
  · rintro ⟨pre, d, rfl, rfl, h⟩
    obtain ⟨s', r, hs, rfl, h'⟩ := (cut_some (f := fun s r => some (s, r))).mp h
    cases h'
    refine ⟨hs ▸ unbe_lt pre, ?_⟩
    rw [lp_enc, hs, beN_unbe, List.append_assoc]
  · rintro ⟨hs, rfl⟩
    refine ⟨beN k s.length, s ++ rest, beN_length k _, List.append_assoc .., ?_⟩
    rw [unbe_beN_of_lt hs]
    exact (cut_some (f := fun s r => some (s, r))).mpr ⟨s, rest, rfl, rfl, rfl⟩

/-! ### peek1 -/

theorem peek1_wf_cons {b : UInt8} {t : Bytes} : peek1.wf (b :: t) = true ↔ b.toNat = t.length :=
  beq_iff_eq

theorem peek1_exact : peek1.Exact := by
  intro bs a rest
  cases bs with
  | nil =>
    refine ⟨nofun, ?_⟩
    rintro ⟨hw, h⟩
    obtain ⟨rfl, -⟩ := List.append_eq_nil_iff.mp h.symm
    cases hw
  | cons b r =>
    refine (cut_some (f := fun pre d => some (b :: pre, d))).trans ?_
    simp only [Option.some.injEq, Prod.mk.injEq]
    constructor
    · rintro ⟨pre, d, hl, rfl, rfl, rfl⟩
      exact ⟨peek1_wf_cons.mpr hl.symm, rfl⟩
    · rintro ⟨hw, h⟩
      cases a with
      | nil => cases hw
      | cons b' t =>
        cases h
        exact ⟨t, rest, (peek1_wf_cons.mp hw).symm, rfl, rfl, rfl⟩

theorem peek1_shrinks : peek1.Shrinks := peek1_exact.lenExact.shrinks

/-! ### fwdPrefix -/

theorem drop_eq_cons {n : Nat} {r r2 : Bytes} {t : UInt8} :
    r.drop n = t :: r2 ↔ ∃ key, key.length = n ∧ r = key ++ t :: r2 := by
  constructor
  · intro h
    have hn : n ≤ r.length := by
      have := congrArg List.length h
      rw [List.length_drop, List.length_cons] at this
      omega
    exact ⟨r.take n, List.length_take_of_le hn, by rw [← h, List.take_append_drop]⟩
  · rintro ⟨key, rfl, rfl⟩
    exact List.drop_left' rfl

theorem fwdPrefix_wf {a : Bytes} : fwdPrefix.wf a = true ↔
    ∃ k key t target, a = k :: (key ++ t :: target) ∧ key.length = k.toNat ∧ t.toNat = target.length := by
  cases a with
  | nil => exact ⟨nofun, nofun⟩
  | cons k r =>
    simp only [fwdPrefix]
    constructor
    · intro h
      split at h
      · cases h
      · next t r2 hd =>
        obtain ⟨key, hk, rfl⟩ := drop_eq_cons.mp hd
        exact ⟨k, key, t, r2, rfl, hk, beq_iff_eq.mp h⟩
    · rintro ⟨k', key, t, target, h, hk, ht⟩
      cases h
      rw [drop_eq_cons.mpr ⟨key, hk, rfl⟩]
      exact beq_iff_eq.mpr ht

theorem fwdPrefix_exact : fwdPrefix.Exact := by
  intro bs a rest
  rw [fwdPrefix_wf]
  cases bs with
  | nil =>
    refine ⟨nofun, ?_⟩
    rintro ⟨⟨k, key, t, target, rfl, -, -⟩, h⟩
    cases h
  | cons k r =>
    simp only [fwdPrefix]
    constructor
    · intro h
      split at h
      · cases h
      · next t r2 hd =>
        obtain ⟨key, hk, rfl⟩ := drop_eq_cons.mp hd
        rw [List.take_left' hk] at h
        obtain ⟨target, d, ht, rfl, h'⟩ :=
          (cut_some (f := fun pre d => some (k :: (key ++ t :: pre), d))).mp h
        cases h'
        exact ⟨⟨k, key, t, target, rfl, hk, ht.symm⟩, by simp⟩
    · rintro ⟨⟨k', key, t, target, rfl, hk, ht⟩, h⟩
      obtain ⟨rfl, rfl⟩ : k = k' ∧ r = key ++ t :: (target ++ rest) := by simpa using h
      rw [drop_eq_cons.mpr ⟨key, hk, rfl⟩]
      dsimp only
      rw [if_pos (by simp [ht]), ht, List.take_left' rfl, List.drop_left' rfl, List.take_left' hk]

theorem fwdPrefix_shrinks : fwdPrefix.Shrinks := fwdPrefix_exact.lenExact.shrinks

/-! ### failC -/

theorem failC_exact : failC.Exact :=
  fun _ _ _ => ⟨nofun, nofun⟩

theorem failC_lenExact : failC.LenExact := failC_exact.lenExact

/-! ### dep, and seq as its constant-family case -/

@[simp] theorem dep_wf {a : Codec τ} {f : τ → Codec β} {p : τ × β} :
    (dep a f).wf p = true ↔ a.wf p.1 = true ∧ (f p.1).wf p.2 = true :=
  Bool.and_eq_true_iff

@[simp] theorem dep_enc_length (a : Codec τ) (f : τ → Codec β) (p : τ × β) :
    ((dep a f).enc p).length = (a.enc p.1).length + ((f p.1).enc p.2).length :=
  List.length_append

theorem dep_dec_some {a : Codec τ} {f : τ → Codec β} {bs : Bytes} {p : τ × β} {r' : Bytes} :
    (dep a f).dec bs = some (p, r') ↔
      ∃ r, a.dec bs = some (p.1, r) ∧ (f p.1).dec r = some (p.2, r') := by
  simp only [dep]
  constructor
  · intro h
    split at h
    · cases h
    · next x r hx =>
      split at h
      · cases h
      · next hy =>
        cases h
        exact ⟨r, hx, hy⟩
  · rintro ⟨r, hx, hy⟩
    simp only [hx, hy]

theorem dep_shrinks {a : Codec τ} {f : τ → Codec β} (ha : a.Shrinks) (hf : ∀ t, (f t).Shrinks) :
    (dep a f).Shrinks := by
  intro bs p rest h
  obtain ⟨r, hx, hy⟩ := dep_dec_some.mp h
  exact Nat.le_trans (hf _ _ _ _ hy) (ha _ _ _ hx)

theorem seq_eq_dep (a : Codec α) (b : Codec β) : seq a b = dep a fun _ => b := rfl

@[simp] theorem seq_wf {a : Codec α} {b : Codec β} {p : α × β} :
    (seq a b).wf p = true ↔ a.wf p.1 = true ∧ b.wf p.2 = true :=
  Bool.and_eq_true_iff

theorem seq_enc (a : Codec α) (b : Codec β) (p : α × β) : (seq a b).enc p = a.enc p.1 ++ b.enc p.2 := rfl

@[simp] theorem seq_enc_length (a : Codec α) (b : Codec β) (p : α × β) :
    ((seq a b).enc p).length = (a.enc p.1).length + (b.enc p.2).length :=
  List.length_append

/-! ### repDec / listN -/

@[simp] theorem encAll_nil (c : Codec α) : encAll c [] = [] := rfl

@[simp] theorem encAll_cons (c : Codec α) (x : α) (xs : List α) :
    encAll c (x :: xs) = c.enc x ++ encAll c xs := rfl

theorem encAll_length {c : Codec α} {n : Nat} (l : List α) (h : ∀ x ∈ l, (c.enc x).length = n) :
    (encAll c l).length = n * l.length := by
  induction l with
  | nil => rfl
  | cons x xs ih =>
    rw [encAll_cons, List.length_append, h x List.mem_cons_self,
      ih fun y hy => h y (List.mem_cons_of_mem _ hy), List.length_cons, Nat.mul_succ, Nat.add_comm]

theorem repDec_sound {c : Codec α} (hc : c.Sound) (l : List α) (rest : Bytes)
    (h : l.all c.wf = true) : repDec c l.length (encAll c l ++ rest) = some (l, rest) := by
  induction l with
  | nil => rfl
  | cons x xs ih =>
    obtain ⟨hx, hxs⟩ := Bool.and_eq_true_iff.mp h
    rw [encAll_cons, List.append_assoc, List.length_cons, repDec, hc x _ hx]
    dsimp only
    rw [ih hxs]

theorem repDec_some {c : Codec α} (hw : c.DecWF) (hl : c.LenExact) {n : Nat} {bs : Bytes}
    {l : List α} {rest : Bytes} (h : repDec c n bs = some (l, rest)) :
    l.all c.wf = true ∧ l.length = n ∧ (encAll c l).length + rest.length = bs.length := by
  -- case1: `n = 0`; case4: the item and the remaining `n` items parse; the others return `none`
  fun_induction repDec c n bs generalizing l rest with
  | case1 => cases h; exact ⟨rfl, rfl, Nat.zero_add _⟩
  | case4 n bs x r hx xs r' hxs ih =>
    cases h
    obtain ⟨h1, h2, h3⟩ := ih hxs
    exact ⟨by rw [List.all_cons, hw _ _ _ hx, h1]; rfl, congrArg (· + 1) h2,
      by rw [encAll_cons, List.length_append, Nat.add_assoc, h3, hl _ _ _ hx]⟩
  | _ => cases h

@[simp] theorem listN_wf {k esz : Nat} {c : Codec α} {l : List α} :
    (listN k c esz).wf l = true ↔ l.length < 256 ^ k ∧ l.all c.wf = true := by
  rw [show (listN k c esz).wf l = (decide (l.length < 256 ^ k) && l.all c.wf) from rfl,
    Bool.and_eq_true, decide_eq_true_iff]

@[simp] theorem listN_enc_length (k esz : Nat) (c : Codec α) (l : List α) :
    ((listN k c esz).enc l).length = k + (encAll c l).length := by
  rw [show (listN k c esz).enc l = beN k l.length ++ encAll c l from rfl, List.length_append,
    beN_length]

theorem listN_dec_some {k esz : Nat} {c : Codec α} {bs : Bytes} {l : List α} {rest : Bytes} :
    (listN k c esz).dec bs = some (l, rest) ↔
      ∃ pre r, pre.length = k ∧ bs = pre ++ r ∧ repDec c (unbe pre) r = some (l, rest) :=
  cut_some (f := fun pre r => repDec c (unbe pre) r)

/-! ### refine / preEnc -/

@[simp] theorem refine_wf {c : Codec α} {p : α → Bool} {nested : α → Nat} {a : α} :
    (refine c p nested).wf a = true ↔ c.wf a = true ∧ p a = true :=
  Bool.and_eq_true_iff

@[simp] theorem refine_enc (c : Codec α) (p : α → Bool) (nested : α → Nat) (a : α) :
    (refine c p nested).enc a = c.enc a := rfl

theorem refine_dec_some {c : Codec α} {p : α → Bool} {nested : α → Nat} {bs : Bytes} {a : α}
    {rest : Bytes} :
    (refine c p nested).dec bs = some (a, rest) ↔ c.dec bs = some (a, rest) ∧ p a = true := by
  simp only [refine]
  constructor
  · intro h
    split at h
    · cases h
    · next x r hx =>
      split at h
      · next hp =>
        cases h
        exact ⟨hx, hp⟩
      · cases h
  · rintro ⟨hx, hp⟩
    simp only [hx, hp, if_true]

theorem refine_shrinks {c : Codec α} {nested : α → Nat} (p : α → Bool) (hc : c.Shrinks) : (refine c p nested).Shrinks :=
  fun bs a rest h => hc bs a rest (refine_dec_some.mp h).1

@[simp] theorem preEnc_wf {c : Codec α} {norm : α → α} {a : α} :
    (preEnc c norm).wf a = true ↔ c.wf a = true ∧ c.enc (norm a) = c.enc a := by
  rw [show (preEnc c norm).wf a = (c.wf a && (c.enc (norm a) == c.enc a)) from rfl,
    Bool.and_eq_true, beq_iff_eq]

theorem preEnc_enc {c : Codec α} {norm : α → α} {a : α} (h : (preEnc c norm).wf a = true) :
    (preEnc c norm).enc a = c.enc a :=
  (preEnc_wf.mp h).2

theorem preEnc_sound {c : Codec α} (norm : α → α) (hc : c.Sound) : (preEnc c norm).Sound := by
  intro a rest h
  rw [preEnc_enc h]
  exact hc a rest (preEnc_wf.mp h).1

theorem preEnc_shrinks {c : Codec α} (norm : α → α) (hc : c.Shrinks) : (preEnc c norm).Shrinks :=
  hc

theorem preEnc_minLen {c : Codec α} {n : Nat} (norm : α → α) (hc : c.MinLen n) :
    (preEnc c norm).MinLen n := by
  intro a h
  rw [preEnc_enc h]
  exact hc a (preEnc_wf.mp h).1

/-! ### top level -/

theorem decodeTop_some {c : Codec α} {k : Nat} {bs : Bytes} {a : α} :
    decodeTop k c bs = some a ↔ k ≤ bs.length ∧ ∃ r, c.dec bs = some (a, r) := by
  unfold decodeTop
  split
  · next h => exact ⟨nofun, fun h' => absurd h'.1 (Nat.not_le.mpr h)⟩
  · next h =>
    rw [Option.map_eq_some_iff]
    exact ⟨fun ⟨⟨_, r⟩, hd, rfl⟩ => ⟨Nat.le_of_not_lt h, r, hd⟩,
      fun ⟨_, r, hd⟩ => ⟨(a, r), hd, rfl⟩⟩

theorem decodeTop_append {c : Codec α} (hc : c.Sound) (minLen : Nat) (a : α) (rest : Bytes)
    (hwf : c.wf a = true) (hlen : minLen ≤ (c.enc a).length) :
    decodeTop minLen c (c.enc a ++ rest) = some a :=
  decodeTop_some.mpr ⟨List.length_append ▸ Nat.le_trans hlen (Nat.le_add_right ..), rest, hc a rest hwf⟩

theorem decodeTop_roundtrip {c : Codec α} (hc : c.Sound) (minLen : Nat) (a : α)
    (hwf : c.wf a = true) (hlen : minLen ≤ (c.enc a).length) :
    decodeTop minLen c (c.enc a) = some a :=
  List.append_nil (c.enc a) ▸ decodeTop_append hc minLen a [] hwf hlen

theorem decodeTop_wf {c : Codec α} (hc : c.DecWF) (minLen : Nat) (bs : Bytes) (a : α)
    (h : decodeTop minLen c bs = some a) : c.wf a = true :=
  let ⟨_, r, hd⟩ := decodeTop_some.mp h
  hc bs a r hd

theorem decodeTop_enc_le {c : Codec α} (hc : c.LenExact) (k : Nat) (bs : Bytes) (a : α)
    (h : decodeTop k c bs = some a) : (c.enc a).length ≤ bs.length :=
  let ⟨_, r, hd⟩ := decodeTop_some.mp h
  Nat.le.intro (hc bs a r hd)

end MM.C05

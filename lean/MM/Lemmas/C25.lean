import MM.Model.C25

namespace MM.C25

/-- What each check answers: nothing, with what it has verified, or a refusal (never `ok`). -/
theorem validateAuth_spec (pwOK : Bytes → Bytes → Bool) (c : Cfg) (p : Bytes) :
    match validateAuth pwOK c p with
    | none => c.hash = [] ∨ (p ≠ [] ∧ pwOK c.hash p = true)
    | some v => v ≠ .ok := by
  fun_cases validateAuth pwOK c p
  · exact Or.inl ‹_›
  · nofun
  · exact Or.inr ⟨‹_›, ‹_›⟩
  · nofun

theorem argLoop_spec (i : Nat) (args : List Bytes) :
    match argLoop i args with
    | none => ∀ a ∈ args, dangerous a = false ∧ isAbs a = false
    | some v => v ≠ .ok := by
  fun_induction argLoop i args
  · nofun
  · nofun
  · nofun
  · rename_i a rest hd ha ih
    split at ih
    · exact List.forall_mem_cons.mpr ⟨⟨by simpa using hd, by simpa using ha⟩, ih⟩
    · exact ih

theorem validateArgs_spec (c : Cfg) (args : List Bytes) :
    match validateArgs c args with
    | none => hasWildcard c = false → ∀ a ∈ args, dangerous a = false ∧ isAbs a = false
    | some v => v ≠ .ok := by
  fun_cases validateArgs c args
  · exact fun h => nomatch ‹hasWildcard c = true›.symm.trans h
  · have := argLoop_spec 0 args
    split at this
    · exact fun _ => this
    · exact this

theorem acquire_cases (c : Cfg) (n : Int) :
    (acquire c n = (.ok, n + 1) ∧ (c.maxSessions > 0 → n < c.maxSessions)) ∨
    acquire c n = (.maxSessions, n) := by
  fun_cases acquire c n
  · exact Or.inr rfl
  · exact Or.inl ⟨rfl, fun hp => by omega⟩

theorem isCommandAllowed_noWild {c : Cfg} {cmd : Bytes} (hw : hasWildcard c = false)
    (h : isCommandAllowed c cmd = true) :
    cmd ∈ c.whitelist ∧ (0x2f : UInt8) ∉ cmd ∧ (0x5c : UInt8) ∉ cmd := by
  revert h
  fun_cases isCommandAllowed c cmd
  · nofun
  · rename_i hw'
    rw [hw] at hw'
    cases hw'
  · nofun
  · rename_i hs
    intro h
    have hs' := List.any_eq_false.mp (Bool.eq_false_iff.mpr hs : hasSep cmd = false)
    obtain ⟨w, hwm, hweq⟩ := List.any_eq_true.mp h
    exact ⟨beq_iff_eq.mp hweq ▸ hwm, fun hm => hs' _ hm (by decide), fun hm => hs' _ hm (by decide)⟩

/-- The two ways `validateAndAcquire` ends: every check passed and the answer is `acquire`'s, or a
    check refused and the counter is untouched. -/
theorem validateAndAcquire_cases (pwOK : Bytes → Bytes → Bool) (c : Cfg) (m : Meta) (n : Int) :
    (c.enabled = true ∧ (c.hash = [] ∨ (m.password ≠ [] ∧ pwOK c.hash m.password = true)) ∧
      isCommandAllowed c m.command = true ∧
      (hasWildcard c = false → ∀ a ∈ m.args, dangerous a = false ∧ isAbs a = false) ∧
      validateAndAcquire pwOK c m n = acquire c n) ∨
    ((validateAndAcquire pwOK c m n).1 ≠ .ok ∧ (validateAndAcquire pwOK c m n).2 = n) := by
  have hau := validateAuth_spec pwOK c m.password
  have har := validateArgs_spec c m.args
  fun_cases validateAndAcquire pwOK c m n
  -- the arms: shell disabled, password refused, command not allowed, an argument refused, all passed
  · exact Or.inr ⟨nofun, rfl⟩
  · rename_i h
    rw [h] at hau
    exact Or.inr ⟨hau, rfl⟩
  · exact Or.inr ⟨nofun, rfl⟩
  · rename_i h
    rw [h] at har
    exact Or.inr ⟨har, rfl⟩
  · rename_i hen h1 hcmd h2
    rw [h1] at hau
    rw [h2] at har
    exact Or.inl ⟨by simpa using hen, hau, by simpa using hcmd, har, rfl⟩

theorem inClass_iff {ranges : List (Nat × Nat)} {b : UInt8} :
    inClass ranges b = true ↔ ∃ r ∈ ranges, r.1 ≤ b.toNat ∧ b.toNat ≤ r.2 := by
  simp only [inClass, List.any_eq_true, Bool.and_eq_true, decide_eq_true_eq]

end MM.C25

/-
  C37 (expandEnvVars): equations of the tokenizer, characterisation of the two matchers,
  partition and token shapes by induction along the tokenizer (`tokens_spec`), `:-` splitting,
  and the expansion of a text around one reference (`expand_brace`, `expand_bare`).
-/
import MM.Model.C37
namespace MM.C37

theorem tokens_nil : tokens [] = [] := by rw [tokens]

theorem tokens_cons_ne {b : UInt8} (h : b ≠ cDollar) (rest : Bytes) :
    tokens (b :: rest) = .lit b :: tokens rest := by
  rw [tokens, if_neg h]

theorem tokens_brace {rest name : Bytes} (h : braceName rest = some name) :
    tokens (cDollar :: rest) = .brace name :: tokens (rest.drop (name.length + 2)) := by
  rw [tokens, if_pos rfl, h]

theorem tokens_bare {rest name : Bytes} (h0 : braceName rest = none) (h : bareName rest = some name) :
    tokens (cDollar :: rest) = .bare name :: tokens (rest.drop name.length) := by
  rw [tokens, if_pos rfl, h0, h]

theorem tokens_dollar_lit {rest : Bytes} (h0 : braceName rest = none) (h : bareName rest = none) :
    tokens (cDollar :: rest) = .lit cDollar :: tokens rest := by
  rw [tokens, if_pos rfl, h0, h]

theorem tokens_append_lit (pre rest : Bytes) (h : ∀ b ∈ pre, b ≠ cDollar) :
    tokens (pre ++ rest) = pre.map .lit ++ tokens rest := by
  induction pre with
  | nil => rfl
  | cons b pre ih =>
    obtain ⟨hb, hpre⟩ := List.forall_mem_cons.mp h
    rw [List.cons_append, tokens_cons_ne hb, ih hpre]
    rfl

theorem flatMap_subst_lit (env : Env) (s : Bytes) : (s.map Tok.lit).flatMap (subst env) = s := by
  rw [List.flatMap_map]
  exact List.flatMap_singleton' s

/-- `takeWhile p` cuts a list in the one place where everything before satisfies `p` and the next
    element (if any) does not. -/
theorem takeWhile_eq_iff {p : UInt8 → Bool} {l t : Bytes} :
    l.takeWhile p = t ↔
      ∃ post, l = t ++ post ∧ (∀ b ∈ t, p b = true) ∧ ∀ c u, post = c :: u → p c = false := by
  constructor
  · rintro rfl
    exact ⟨l.dropWhile p, List.takeWhile_append_dropWhile.symm, List.all_eq_true.mp List.all_takeWhile,
      fun c u h => by simpa [h] using List.head?_dropWhile_not p l⟩
  · rintro ⟨post, rfl, ht, hp⟩
    rw [List.takeWhile_append_of_pos ht]
    cases post with
    | nil => simp
    | cons c u => rw [List.takeWhile_cons_of_neg (by simp [hp c u rfl])]; simp

theorem braceName_eq_some {rest name : Bytes} :
    braceName rest = some name ↔
      name ≠ [] ∧ (∀ b ∈ name, b ≠ cRBrace) ∧ ∃ post, rest = cLBrace :: (name ++ cRBrace :: post) := by
  cases rest with
  | nil => exact ⟨nofun, fun ⟨_, _, _, h⟩ => nomatch h⟩
  | cons c r =>
    simp only [braceName]
    by_cases hc : c = cLBrace
    · subst hc
      rw [if_pos rfl, Option.ite_none_right_eq_some, Option.some.injEq]
      constructor
      · rintro ⟨⟨hne, hdr⟩, hname⟩
        rw [hname] at hne hdr
        obtain ⟨post, rfl, ht, hp⟩ := takeWhile_eq_iff.mp hname
        -- something follows the name, and it starts with the byte that stopped `takeWhile`
        rw [List.drop_left] at hdr
        obtain ⟨x, u, rfl⟩ := List.exists_cons_of_ne_nil hdr
        obtain rfl : x = cRBrace := bne_eq_false_iff_eq.mp (hp x u rfl)
        exact ⟨hne, fun b hb => bne_iff_ne.mp (ht b hb), u, rfl⟩
      · rintro ⟨hne, hnb, post, h⟩
        obtain rfl := (List.cons.inj h).2
        have htw : (name ++ cRBrace :: post).takeWhile notRBrace = name :=
          takeWhile_eq_iff.mpr ⟨_, rfl, fun b hb => bne_iff_ne.mpr (hnb b hb),
            fun c u h => by cases h; rfl⟩
        rw [htw, List.drop_left]
        exact ⟨⟨hne, nofun⟩, rfl⟩
    · rw [if_neg hc]
      exact ⟨nofun, fun ⟨_, _, _, h⟩ => absurd (List.cons.inj h).1 hc⟩

/-- Identifier: `[A-Za-z_][A-Za-z0-9_]*`. -/
def IsIdent (name : Bytes) : Prop :=
  ∃ c t, name = c :: t ∧ isIdStart c = true ∧ ∀ b ∈ t, isIdChar b = true

/-- The next byte (if any) cannot extend an identifier. -/
def NoIdCharAhead (post : Bytes) : Prop := ∀ c t, post = c :: t → isIdChar c = false

theorem bareName_eq_some {rest name : Bytes} :
    bareName rest = some name ↔ IsIdent name ∧ ∃ post, rest = name ++ post ∧ NoIdCharAhead post := by
  cases rest with
  | nil => exact ⟨nofun, fun ⟨⟨_, _, hn, _⟩, _, h, _⟩ => by subst hn; cases h⟩
  | cons c r =>
    simp only [bareName]
    rw [Option.ite_none_right_eq_some, Option.some.injEq]
    constructor
    · rintro ⟨hc, rfl⟩
      obtain ⟨post, hr, ht, hp⟩ := takeWhile_eq_iff.mp (rfl : r.takeWhile isIdChar = _)
      exact ⟨⟨c, _, rfl, hc, ht⟩, post, congrArg (c :: ·) hr, hp⟩
    · rintro ⟨⟨c', t, rfl, hc, ht⟩, post, h, hp⟩
      obtain ⟨rfl, rfl⟩ := List.cons.inj h
      exact ⟨hc, congrArg (c :: ·) (takeWhile_eq_iff.mpr ⟨post, rfl, ht, hp⟩)⟩

theorem braceName_none_of_ident {name : Bytes} (post : Bytes) (hid : IsIdent name) :
    braceName (name ++ post) = none := by
  obtain ⟨c, t, rfl, hc, _⟩ := hid
  have hne : c ≠ cLBrace := by rintro rfl; revert hc; decide
  simp only [List.cons_append, braceName, if_neg hne]

/-- Shape of every token the tokenizer produces. -/
def Tok.WellFormed : Tok → Prop
  | .lit _ => True
  | .brace n => n ≠ [] ∧ ∀ b ∈ n, b ≠ cRBrace
  | .bare n => IsIdent n

theorem tokens_spec (s : Bytes) :
    (tokens s).flatMap Tok.src = s ∧ ∀ t ∈ tokens s, t.WellFormed := by
  fun_induction tokens s
  case case1 => exact ⟨rfl, nofun⟩
  case case2 rest name hbr ih =>
    obtain ⟨h1, h2, post, rfl⟩ := braceName_eq_some.mp hbr
    simp only [List.drop_succ_cons, List.drop_length_add_append, List.drop_zero] at ih ⊢
    refine ⟨?_, List.forall_mem_cons.mpr ⟨⟨h1, h2⟩, ih.2⟩⟩
    rw [List.flatMap_cons, ih.1]
    simp [Tok.src]
  case case3 rest _ name hba ih =>
    obtain ⟨hid, post, rfl, _⟩ := bareName_eq_some.mp hba
    rw [List.drop_left] at ih ⊢
    refine ⟨?_, List.forall_mem_cons.mpr ⟨hid, ih.2⟩⟩
    rw [List.flatMap_cons, ih.1]
    rfl
  -- the other two cases copy one byte (a `$` that starts no reference, any other byte)
  all_goals
    rename_i ih
    exact ⟨by rw [List.flatMap_cons, ih.1]; rfl, List.forall_mem_cons.mpr ⟨trivial, ih.2⟩⟩

theorem splitDefault_intro (v d : Bytes) (h : ∀ b ∈ v, b ≠ cColon) :
    splitDefault (v ++ cColon :: cMinus :: d) = some (v, d) := by
  induction v with
  | nil => rfl
  | cons b r ih =>
    obtain ⟨hb, hr⟩ := List.forall_mem_cons.mp h
    rw [List.cons_append, splitDefault, if_neg (fun hh => hb hh.1), ih hr]

theorem splitDefault_some {n v d : Bytes} (h : splitDefault n = some (v, d)) :
    n = v ++ cColon :: cMinus :: d := by
  revert h
  fun_induction splitDefault n generalizing v
  case case2 b rest hc =>
    rintro ⟨⟩
    obtain ⟨rfl, hh⟩ := hc
    obtain ⟨t, rfl⟩ := List.head?_eq_some_iff.mp hh
    rfl
  case case3 hr ih =>
    rintro ⟨⟩
    rw [ih hr]; rfl
  all_goals nofun

theorem splitDefault_none_of_no_colon (n : Bytes) (h : ∀ b ∈ n, b ≠ cColon) : splitDefault n = none := by
  cases hs : splitDefault n with
  | none => rfl
  | some vd => exact absurd rfl (h cColon (by rw [splitDefault_some (v := vd.1) (d := vd.2) hs]; simp))

theorem isIdChar_ne_colon {c : UInt8} (h : isIdChar c = true) : c ≠ cColon := by
  rintro rfl; revert h; decide

theorem ident_no_colon {name : Bytes} (h : IsIdent name) : ∀ b ∈ name, b ≠ cColon := by
  obtain ⟨c, t, rfl, hc, ht⟩ := h
  exact List.forall_mem_cons.mpr
    ⟨isIdChar_ne_colon (by simp [isIdChar, hc]), fun b hb => isIdChar_ne_colon (ht b hb)⟩

theorem expand_append_lit (env : Env) (pre rest : Bytes) (h : ∀ b ∈ pre, b ≠ cDollar) :
    expand env (pre ++ rest) = pre ++ expand env rest := by
  unfold expand
  rw [tokens_append_lit pre rest h, List.flatMap_append, flatMap_subst_lit]

theorem expand_brace {env : Env} {pre name post : Bytes} (hpre : ∀ b ∈ pre, b ≠ cDollar)
    (hne : name ≠ []) (hnb : ∀ b ∈ name, b ≠ cRBrace) :
    expand env (pre ++ cDollar :: cLBrace :: (name ++ cRBrace :: post)) =
      pre ++ subst env (.brace name) ++ expand env post := by
  rw [expand_append_lit env pre _ hpre, List.append_assoc]
  unfold expand
  rw [tokens_brace (braceName_eq_some.mpr ⟨hne, hnb, post, rfl⟩), List.flatMap_cons, List.drop_succ_cons,
    List.drop_length_add_append, List.drop_succ_cons, List.drop_zero]

theorem expand_bare {env : Env} {pre name post : Bytes} (hpre : ∀ b ∈ pre, b ≠ cDollar)
    (hid : IsIdent name) (hp : NoIdCharAhead post) :
    expand env (pre ++ cDollar :: (name ++ post)) =
      pre ++ subst env (.bare name) ++ expand env post := by
  rw [expand_append_lit env pre _ hpre, List.append_assoc]
  unfold expand
  rw [tokens_bare (braceName_none_of_ident post hid) (bareName_eq_some.mpr ⟨hid, post, rfl, hp⟩),
    List.flatMap_cons,
    List.drop_left' rfl]

theorem subst_unset (env : Env) (t : Tok) (name : Bytes)
    (ht : t = .brace name ∨ t = .bare name) (hnd : splitDefault name = none)
    (hunset : env name = none) : subst env t = t.src := by
  rcases ht with rfl | rfl <;> simp [subst, replacement, hnd, hunset]

end MM.C37

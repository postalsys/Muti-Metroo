import MM.Model.C27

/-!
  Why `untar true` writes only below the destination.  A path without ".." (`NoDD`) none of whose
  components is a symbolic link (`Clear`) resolves lexically, so `stat`/`lstat` on it are plain
  lookups (`walk_found`, `walk_missing`).  `Safe dest fs fs'` (entries and file contents change only
  strictly below `dest`, and `Inv` survives) is the relation the extraction keeps: it is transitive,
  and every change of one entry strictly below `dest` has it (`safe_update`).  Hence one lemma per
  system call on a `Clear` path, which besides `Safe` records when no symbolic link appears
  (`NoNewSym`), so that `Clear` survives the call (`Quiet`: both, and only prefixes of the path
  change — `mkdir`, `MkdirAll`).  `check_sound`: the Lstat walk of
  checkNoSymlinkComponents establishes `Clear` for the path about to be used.
-/
namespace MM.C27

theorem lookup_nil (fs : FS) : fs.lookup [] = some .dir := by simp [FS.lookup]

theorem lookup_mem {fs : FS} {p : Path} {k : Kind} (hp : p ≠ []) (h : fs.lookup p = some k) :
    (p, k) ∈ fs.ents := by
  rw [FS.lookup, if_neg hp] at h
  obtain ⟨⟨p', k'⟩, hf, rfl⟩ := Option.map_eq_some_iff.mp h
  have hp' : p' = p := by simpa using List.find?_some hf
  exact hp' ▸ List.mem_of_find?_eq_some hf

theorem find_filter {α β : Type} [DecidableEq α] (l : List (α × β)) (p q : α) :
    (l.filter (fun e => e.1 ≠ p)).find? (fun e => e.1 = q) =
      if q = p then none else l.find? (fun e => e.1 = q) := by
  rw [List.find?_filter]
  split
  · rename_i h
    simp [h]
  · rename_i h
    congr 1
    funext e
    by_cases he : e.1 = q <;> simp [he, h]

theorem lookup_set (fs : FS) {p : Path} (k : Kind) (q : Path) (hp : p ≠ []) :
    (fs.set p k).lookup q = if q = p then some k else fs.lookup q := by
  unfold FS.lookup FS.set
  by_cases hq : q = p
  · simp [hq, hp]
  · simp only [List.find?_cons, find_filter, hq, if_false, decide_eq_false (Ne.symm hq)]

theorem lookup_del (fs : FS) {p : Path} (q : Path) (hp : p ≠ []) :
    (fs.del p).lookup q = if q = p then none else fs.lookup q := by
  unfold FS.lookup FS.del
  by_cases hq : q = p
  · simp [hq, hp]
  · simp only [find_filter, hq, if_false]

@[simp] theorem lookup_setData (fs : FS) (i c : Nat) (q : Path) :
    (fs.setData i c).lookup q = fs.lookup q := rfl

@[simp] theorem lookup_withNext (fs : FS) (n : Nat) (q : Path) :
    ({ fs with next := n } : FS).lookup q = fs.lookup q := rfl

@[simp] theorem content_set (fs : FS) (p : Path) (k : Kind) (i : Nat) :
    (fs.set p k).content i = fs.content i := rfl

@[simp] theorem content_del (fs : FS) (p : Path) (i : Nat) : (fs.del p).content i = fs.content i := rfl

@[simp] theorem content_withNext (fs : FS) (n : Nat) (i : Nat) :
    ({ fs with next := n } : FS).content i = fs.content i := rfl

theorem content_setData (fs : FS) (i c j : Nat) :
    (fs.setData i c).content j = if j = i then some c else fs.content j := by
  unfold FS.content FS.setData
  by_cases h : j = i
  · simp [h]
  · simp only [List.find?_cons, find_filter, h, if_false, decide_eq_false (Ne.symm h)]

def NoDD (l : List Name) : Prop := ∀ n ∈ l, n ≠ dd

theorem NoDD.cons {n : Name} {l : List Name} (h : NoDD (n :: l)) : n ≠ dd ∧ NoDD l :=
  List.forall_mem_cons.mp h

theorem NoDD.append {a b : List Name} (ha : NoDD a) (hb : NoDD b) : NoDD (a ++ b) :=
  List.forall_mem_append.mpr ⟨ha, hb⟩

theorem NoDD.dropLast {a : List Name} (ha : NoDD a) : NoDD a.dropLast :=
  fun x hx => ha x (List.dropLast_subset a hx)

/-- `cleanRel` keeps ".." at the bottom of its stack only: if the bottom is not "..", nothing is. -/
theorem cleanRel_nodd (comps stack : List Name) (hK : stack.getLast? ≠ some dd → NoDD stack)
    (hh : (cleanRel stack comps).head? ≠ some dd) : NoDD (cleanRel stack comps) := by
  -- cases 1–5: end of input; ".." on the empty stack, kept; ".." on "..", kept; ".." pops a name;
  -- a name is pushed
  fun_induction cleanRel stack comps with
  | case1 stack => rw [List.head?_reverse] at hh; exact fun x hx => hK hh x (List.mem_reverse.mp hx)
  | case2 rest ih => exact ih (fun h => absurd rfl h) hh
  | case3 rest s ih => exact ih (fun h => absurd rfl (hK h dd (List.mem_cons_self ..))) hh
  | case4 rest top s ht ih =>
    refine ih (fun h => ?_) hh
    cases s with
    | nil => exact fun _ hx => nomatch hx
    | cons b s' => exact fun x hx => hK h x (List.mem_cons_of_mem _ hx)
  | case5 stack n rest hn ih =>
    refine ih (fun h x hx => ?_) hh
    rcases List.mem_cons.mp hx with rfl | hx
    · exact hn
    · cases stack with
      | nil => cases hx
      | cons b s' => exact hK h x hx

theorem sanitize_nodd {name : Target} {rel : List Name} (h : sanitize name = some rel) : NoDD rel := by
  revert h
  fun_cases sanitize name
  · nofun
  · nofun
  · rename_i hh
    intro h
    rw [← Option.some.inj h]
    exact cleanRel_nodd _ [] (fun _ _ hx => nomatch hx) hh

def NoSymAt (fs : FS) (p : Path) : Prop := ∀ t, fs.lookup p ≠ some (.sym t)

/-- None of the first `m` components of `P` is a symbolic link.  `m = P.length` lets `stat` resolve
    `P` lexically, `m = P.length - 1` lets `lstat` (`walk_lex`). -/
def Clear (fs : FS) (P : Path) (m : Nat) : Prop := ∀ j, j < m → NoSymAt fs (P.take (j + 1))

theorem Clear.le {fs : FS} {P : Path} {m m' : Nat} (h : Clear fs P m) (hle : m' ≤ m) : Clear fs P m' :=
  fun j hj => h j (Nat.lt_of_lt_of_le hj hle)

theorem clear_prefix {fs : FS} {Q P : Path} (h : Q <+: P) {m : Nat} (hm : m ≤ Q.length) :
    Clear fs Q m ↔ Clear fs P m := by
  obtain ⟨R, rfl⟩ := h
  refine forall_congr' fun j => imp_congr_right fun hj => ?_
  rw [List.take_append_of_le_length (Nat.le_trans hj hm)]

theorem clear_dropLast {fs : FS} {P : Path} (h : Clear fs P (P.length - 1)) :
    Clear fs P.dropLast P.dropLast.length := by
  rw [List.length_dropLast]
  exact (clear_prefix (List.dropLast_prefix P) (by simp)).mpr h

theorem clear_last {fs : FS} {P : Path} (h : Clear fs P (P.length - 1)) (hn : P ≠ [] → NoSymAt fs P) :
    Clear fs P P.length := by
  intro j hj
  by_cases hj' : j < P.length - 1
  · exact h j hj'
  · rw [List.take_of_length_le (Nat.le_add_of_sub_le (Nat.le_of_not_lt hj'))]
    exact hn (List.ne_nil_of_length_pos (Nat.zero_lt_of_lt hj))

/-- what `walk` returns when no symbolic link is met: the lexical lookup -/
def lexRes (fs : FS) (follow : Bool) : Path → List Name → Res
  | cur, [] => .found cur .dir
  | cur, n :: rest =>
    match fs.lookup (cur ++ [n]) with
    | none => if rest = [] then .missing cur n else .err
    | some .dir => lexRes fs follow (cur ++ [n]) rest
    | some (.file i) => if rest = [] then .found (cur ++ [n]) (.file i) else .err
    | some (.sym t) => if rest = [] ∧ follow = false then .found (cur ++ [n]) (.sym t) else .err

/-- A pass that meets no symbolic link (one as the last component does not count when it is not to
    be followed) never calls `k`, so it is the lexical lookup whatever the fuel. -/
theorem walkAux_lex (fs : FS) (follow : Bool) (k : Path → List Name → Res) :
    ∀ (todo : List Name) (cur : Path), NoDD todo →
      (∀ j, j < todo.length → NoSymAt fs (cur ++ todo.take (j + 1)) ∨ (j + 1 = todo.length ∧ follow = false)) →
      walkAux fs follow k cur todo = lexRes fs follow cur todo := by
  intro todo
  induction todo with
  | nil => exact fun _ _ _ => rfl
  | cons n rest ih =>
    intro cur hdd hclear
    unfold walkAux lexRes
    rw [if_neg hdd.cons.1]
    cases hl : fs.lookup (cur ++ [n]) with
    | none => rfl
    | some kd =>
      cases kd with
      | dir =>
        refine ih (cur ++ [n]) hdd.cons.2 fun j hj => ?_
        simpa [List.append_assoc] using hclear (j + 1) (Nat.succ_lt_succ hj)
      | file i => rfl
      | sym t =>
        rcases hclear 0 (Nat.succ_pos _) with h0 | ⟨hlen, hf⟩
        · exact absurd hl (h0 t)
        · have hre : rest = [] := List.eq_nil_of_length_eq_zero (by simpa using hlen)
          simp [hre, hf]

theorem walk_lex {fs : FS} {follow : Bool} {fu : Nat} {P : Path} (hdd : NoDD P)
    (hc : Clear fs P (if follow then P.length else P.length - 1)) :
    walk fs follow fu [] P = lexRes fs follow [] P := by
  have h : ∀ k, walkAux fs follow k [] P = lexRes fs follow [] P := fun k =>
    walkAux_lex fs follow k P [] hdd fun j hj => by
      cases follow with
      | true => exact .inl (hc j hj)
      | false =>
        by_cases hlast : j + 1 = P.length
        · exact .inr ⟨hlast, rfl⟩
        · exact .inl (hc j (Nat.lt_sub_of_add_lt (Nat.lt_of_le_of_ne hj hlast)))
  cases fu <;> exact h _

/-- From a directory `cur`, what `lexRes` reports is what the flat map holds at `cur ++ todo`. -/
theorem lexRes_spec {fs : FS} {fl : Bool} {todo : List Name} {cur : Path} (hcur : fs.lookup cur = some .dir) :
    match lexRes fs fl cur todo with
    | .found p k => p = cur ++ todo ∧ fs.lookup p = some k
    | .missing par n => par ++ [n] = cur ++ todo ∧ fs.lookup (cur ++ todo) = none ∧ fs.lookup par = some .dir
    | .err => True := by
  -- found: at the end of the path (1), or a file (5) or link (7) as the last component; missing: the
  -- last component (2); below a directory (4) the descent goes on; every other case gives up
  fun_induction lexRes fs fl cur todo with
  | case1 cur => exact ⟨(List.append_nil _).symm, hcur⟩
  | case2 cur n hl => exact ⟨rfl, hl, hcur⟩
  | case4 cur n rest hl ih => rw [List.append_cons cur n rest]; exact ih hl
  | case5 cur n i hl => exact ⟨rfl, hl⟩
  | case7 cur n rest t hl hr => cases hr.1; exact ⟨rfl, hl⟩
  | _ => trivial

theorem walk_found {fs : FS} {follow : Bool} {fu : Nat} {P p : Path} {k : Kind}
    (h : walk fs follow fu [] P = .found p k) (hdd : NoDD P)
    (hc : Clear fs P (if follow then P.length else P.length - 1)) : p = P ∧ fs.lookup P = some k := by
  have := lexRes_spec (fl := follow) (todo := P) (lookup_nil fs)
  rw [← walk_lex hdd hc, h] at this
  obtain ⟨rfl, h2⟩ := this
  exact ⟨rfl, h2⟩

theorem walk_missing {fs : FS} {follow : Bool} {fu : Nat} {P par : Path} {n : Name}
    (h : walk fs follow fu [] P = .missing par n) (hdd : NoDD P)
    (hc : Clear fs P (if follow then P.length else P.length - 1)) :
    par ++ [n] = P ∧ fs.lookup P = none ∧ fs.lookup P.dropLast = some .dir := by
  have := lexRes_spec (fl := follow) (todo := P) (lookup_nil fs)
  rw [← walk_lex hdd hc, h, List.nil_append] at this
  obtain ⟨h1, h2, h3⟩ := this
  exact ⟨h1, h2, by rw [← h1, List.dropLast_concat]; exact h3⟩

theorem lstat_found_clear {fs : FS} {fu : Nat} {P q : Path} {k : Kind} (h : lstat fs fu P = .found q k)
    (hdd : NoDD P) (hc : Clear fs P P.length) : q = P ∧ ∀ t, k ≠ .sym t := by
  obtain ⟨rfl, hlk⟩ := walk_found h hdd (hc.le (Nat.sub_le _ _))
  refine ⟨rfl, fun t hk => ?_⟩
  have hpos : 0 < q.length := List.length_pos_iff.mpr fun he => by
    rw [he, lookup_nil] at hlk; cases hk ▸ hlk
  have := hc (q.length - 1) (Nat.sub_lt hpos Nat.one_pos) t
  rw [Nat.sub_add_cancel hpos, List.take_length] at this
  exact this (hk ▸ hlk)

def Under (dest q : Path) : Prop := dest <+: q ∧ q ≠ dest

theorem Under.ne_nil {dest q : Path} (h : Under dest q) : q ≠ [] :=
  fun hq => h.2 (hq ▸ (List.prefix_nil.mp (hq ▸ h.1)).symm)

theorem Under.ne_take {dest q : Path} (h : Under dest q) (j : Nat) : q ≠ dest.take j := fun he =>
  h.2 (he.trans ((he ▸ h.1 : dest <+: dest.take j).eq_of_length_le (List.length_take_le' j dest)).symm)

theorem comparable_of_prefix {dest Q P : Path} (hQ : Q <+: P) (h : P <+: dest ∨ dest <+: P) :
    Q <+: dest ∨ dest <+: Q :=
  h.elim (fun h => .inl (hQ.trans h)) fun h => (List.prefix_or_prefix_of_prefix h hQ).symm

/-- What the extraction assumes of the filesystem and keeps.  `wf`: the entries form a tree (the
    parent of every entry is a directory); `fresh`: every inode in use is below the counter `next`;
    `sep`: no inode has one name strictly below `dest` and another elsewhere; `phys`: `dest` and its
    ancestors are directories, none a symbolic link. -/
structure Inv (dest : Path) (fs : FS) : Prop where
  wf : ∀ p k, p ≠ [] → fs.lookup p = some k → fs.lookup p.dropLast = some .dir
  fresh : ∀ p i, fs.lookup p = some (.file i) → i < fs.next
  sep : ∀ p q i, fs.lookup p = some (.file i) → fs.lookup q = some (.file i) → Under dest p → Under dest q
  phys : ∀ j, j < dest.length → fs.lookup (dest.take (j + 1)) = some .dir

theorem inv_lookup_prefix {dest : Path} {fs : FS} (hI : Inv dest fs) {P : Path} (hp : P <+: dest) :
    fs.lookup P = some .dir := by
  cases P with
  | nil => exact lookup_nil fs
  | cons a as =>
    rw [List.prefix_iff_eq_take.mp hp]
    exact hI.phys as.length (Nat.lt_of_lt_of_le (Nat.lt_succ_self _) hp.length_le)

theorem clear_dest {dest : Path} {fs : FS} (hI : Inv dest fs) : Clear fs dest dest.length := by
  intro j hj t hl
  rw [hI.phys j hj] at hl; cases hl

theorem under_of_ne_dir {dest : Path} {fs : FS} {P : Path} {k : Option Kind} (hI : Inv dest fs)
    (hp : dest <+: P) (hl : fs.lookup P = k) (hk : k ≠ some .dir) : Under dest P :=
  ⟨hp, fun he => hk (hl.symm.trans (he ▸ inv_lookup_prefix hI (List.prefix_refl dest)))⟩

def NoChildren (fs : FS) (q : Path) : Prop := ∀ p, p ≠ [] → p.dropLast = q → fs.lookup p = none

theorem noChildren_of_isEmptyDir {fs : FS} {q : Path} (h : fs.isEmptyDir q = true) : NoChildren fs q :=
  fun p hp hd => Option.eq_none_iff_forall_ne_some.mpr fun k hl => by
    have := List.all_eq_true.mp h _ (lookup_mem hp hl)
    simp [hp, hd] at this

theorem noChildren_of_ne_dir {dest : Path} {fs : FS} {q : Path} (hI : Inv dest fs)
    (hq : fs.lookup q ≠ some .dir) : NoChildren fs q :=
  fun p hp hd => Option.eq_none_iff_forall_ne_some.mpr fun k hl => hq (hd ▸ hI.wf p k hp hl)

theorem none_of_prefix {dest : Path} {fs : FS} (hI : Inv dest fs) {Q P : Path}
    (hQ : fs.lookup Q = none) (h : Q <+: P) : fs.lookup P = none := by
  obtain ⟨R, rfl⟩ := h
  induction R generalizing Q with
  | nil => rwa [List.append_nil]
  | cons a R ih =>
    rw [List.append_cons]
    exact ih (noChildren_of_ne_dir hI (hQ ▸ nofun) _ (by simp) List.dropLast_concat)

theorem none_below {dest : Path} {fs : FS} (hI : Inv dest fs) {Q R : Path}
    (hQ : fs.lookup Q ≠ some .dir) (hR : R ≠ []) : fs.lookup (Q ++ R) = none := by
  obtain ⟨a, R, rfl⟩ := List.exists_cons_of_ne_nil hR
  rw [List.append_cons]
  exact none_of_prefix hI (noChildren_of_ne_dir hI hQ _ (by simp) List.dropLast_concat) (List.prefix_append _ _)

theorem clear_of_none {dest : Path} {fs : FS} (hI : Inv dest fs) {P : Path} {c : Nat}
    (h : Clear fs P c) (hnone : fs.lookup (P.take (c + 1)) = none) (m : Nat) : Clear fs P m := by
  intro j hj t hl
  by_cases hjc : j < c
  · exact h j hjc t hl
  · rw [none_of_prefix hI hnone (List.take_prefix_take_left (by omega))] at hl
    cases hl

theorem lexRes_err {dest : Path} {fs : FS} (hI : Inv dest fs) {todo : List Name} {cur : Path}
    (h : lexRes fs false cur todo = .err) : fs.lookup (cur ++ todo) = none := by
  -- `lexRes` gives up where a component with more to come is missing (3), a file (6) or a link (8)
  fun_induction lexRes fs false cur todo with
  | case3 cur n rest hl hr => rw [List.append_cons]; exact none_below hI (hl ▸ nofun) hr
  | case4 cur n rest hl ih => rw [List.append_cons]; exact ih h
  | case6 cur n rest i hl hr => rw [List.append_cons]; exact none_below hI (hl ▸ nofun) hr
  | case8 cur n rest t hl hr => rw [List.append_cons]; exact none_below hI (hl ▸ nofun) (by simpa using hr)
  | _ => cases h

/-- From `fs` to `fs'` nothing changed outside `dest`.  `look`: every entry not strictly below
    `dest` is the same; `data`: an inode whose content changed had a name below `dest` or is new;
    `prov`: the inode of a file below `dest` in `fs'` had a name below `dest` or is new — with
    `Inv.sep` no outside file is reached, and `data` composes (`Safe.trans`). -/
structure Safe (dest : Path) (fs fs' : FS) : Prop where
  look : ∀ q, ¬ Under dest q → fs'.lookup q = fs.lookup q
  data : ∀ i, fs'.content i ≠ fs.content i → (∃ q, Under dest q ∧ fs.lookup q = some (.file i)) ∨ fs.next ≤ i
  prov : ∀ q i, Under dest q → fs'.lookup q = some (.file i) →
    (∃ q', Under dest q' ∧ fs.lookup q' = some (.file i)) ∨ fs.next ≤ i
  next : fs.next ≤ fs'.next
  inv : Inv dest fs → Inv dest fs'

theorem Safe.refl (dest : Path) (fs : FS) : Safe dest fs fs :=
  ⟨fun _ _ => rfl, fun _ h => absurd rfl h, fun q _ hq h => Or.inl ⟨q, hq, h⟩, Nat.le_refl _, id⟩

theorem Safe.trans {dest : Path} {a b c : FS} (h1 : Safe dest a b) (h2 : Safe dest b c) : Safe dest a c := by
  refine ⟨fun q hq => (h2.look q hq).trans (h1.look q hq), ?_, ?_, Nat.le_trans h1.next h2.next,
    fun hi => h2.inv (h1.inv hi)⟩
  · intro i hne
    by_cases hb : b.content i = a.content i
    · rcases h2.data i (hb ▸ hne) with ⟨q, hq, hl⟩ | hn
      · exact h1.prov q i hq hl
      · exact Or.inr (Nat.le_trans h1.next hn)
    · exact h1.data i hb
  · intro q i hq hl
    rcases h2.prov q i hq hl with ⟨q', hq', hl'⟩ | hn
    · exact h1.prov q' i hq' hl'
    · exact Or.inr (Nat.le_trans h1.next hn)

def NoNewSym (fs fs' : FS) : Prop := ∀ q t, fs'.lookup q = some (.sym t) → fs.lookup q = some (.sym t)

theorem NoNewSym.refl (fs : FS) : NoNewSym fs fs := fun _ _ h => h

theorem NoNewSym.trans {a b c : FS} (h1 : NoNewSym a b) (h2 : NoNewSym b c) : NoNewSym a c :=
  fun q t h => h1 q t (h2 q t h)

theorem noNewSym_update {fs fs' : FS} {q : Path} {x : Option Kind}
    (hlook : ∀ p, fs'.lookup p = if p = q then x else fs.lookup p) (hx : ∀ t, x ≠ some (.sym t)) :
    NoNewSym fs fs' := by
  intro p t hl
  rw [hlook] at hl
  split at hl
  · exact absurd hl (hx t)
  · exact hl

theorem Clear.mono {fs fs' : FS} {P : Path} {m : Nat} (h : Clear fs P m) (hn : NoNewSym fs fs') :
    Clear fs' P m := fun j hj t hl => h j hj t (hn _ t hl)

/-- A call that changes nothing outside `dest`, makes no symbolic link, and leaves every path that is
    no prefix of `P` as it was. -/
structure Quiet (dest P : Path) (fs fs' : FS) : Prop where
  safe : Safe dest fs fs'
  nosym : NoNewSym fs fs'
  frame : ∀ q, ¬ q <+: P → fs'.lookup q = fs.lookup q

theorem Quiet.refl (dest P : Path) (fs : FS) : Quiet dest P fs fs :=
  ⟨Safe.refl _ _, NoNewSym.refl _, fun _ _ => rfl⟩

theorem Quiet.trans {dest P : Path} {a b c : FS} (h1 : Quiet dest P a b) (h2 : Quiet dest P b c) :
    Quiet dest P a c :=
  ⟨h1.safe.trans h2.safe, h1.nosym.trans h2.nosym, fun q hq => (h2.frame q hq).trans (h1.frame q hq)⟩

theorem dropLast_ne_self {p : Path} (hp : p ≠ []) : p.dropLast ≠ p := fun h =>
  hp (List.eq_nil_of_length_eq_zero (Nat.sub_one_eq_self.mp (by rw [← List.length_dropLast, h])))

/-- `fs'` is `fs` with the one entry `q`, strictly below `dest`, replaced by `x` (`none`: removed).
    `hleaf` and `hpar` keep the tree, `hfile` keeps `fresh` and `sep`. -/
theorem safe_update {dest : Path} {fs fs' : FS} {q : Path} {x : Option Kind} (hI : Inv dest fs)
    (hq : Under dest q) (hlook : ∀ p, fs'.lookup p = if p = q then x else fs.lookup p)
    (hdata : ∀ i, fs'.content i ≠ fs.content i → fs.next ≤ i) (hnext : fs.next ≤ fs'.next)
    (hleaf : NoChildren fs q)
    (hpar : x ≠ none → fs.lookup q.dropLast = some .dir)
    (hfile : ∀ i, x = some (.file i) →
      i < fs'.next ∧ ((∃ src, Under dest src ∧ fs.lookup src = some (.file i)) ∨ fs.next ≤ i)) :
    Safe dest fs fs' := by
  have hcases : ∀ {p k}, fs'.lookup p = some k → p = q ∧ x = some k ∨ p ≠ q ∧ fs.lookup p = some k := by
    intro p k hl
    rw [hlook] at hl
    split at hl
    · exact .inl ⟨‹_›, hl⟩
    · exact .inr ⟨‹_›, hl⟩
  have hne : ∀ {p}, ¬ Under dest p → fs'.lookup p = fs.lookup p := fun {p} hp => by
    rw [hlook, if_neg fun h : p = q => hp (h ▸ hq)]
  exact {
    look := fun p => hne
    data := fun i h => .inr (hdata i h)
    prov := fun p i hp hl => by
      rcases hcases hl with ⟨-, hx⟩ | ⟨-, hl⟩
      · exact (hfile i hx).2
      · exact .inl ⟨p, hp, hl⟩
    next := hnext
    inv := fun _ => {
      wf := fun p k hp0 hl => by
        rw [hlook]
        rcases hcases hl with ⟨rfl, hx⟩ | ⟨-, hl⟩
        · rw [if_neg (dropLast_ne_self hp0)]
          exact hpar (hx ▸ Option.some_ne_none k)
        · rw [if_neg fun hpd => by rw [hleaf p hp0 hpd] at hl; cases hl]
          exact hI.wf p k hp0 hl
      fresh := fun p i hl => by
        rcases hcases hl with ⟨-, hx⟩ | ⟨-, hl⟩
        · exact (hfile i hx).1
        · exact Nat.lt_of_lt_of_le (hI.fresh p i hl) hnext
      sep := fun p p' i hl hl' hu => by
        rcases hcases hl' with ⟨rfl, -⟩ | ⟨-, hl'⟩
        · exact hq
        rcases hcases hl with ⟨-, hx⟩ | ⟨-, hl⟩
        · rcases (hfile i hx).2 with ⟨src, hs, hls⟩ | hn
          · exact hI.sep src p' i hls hl' hs
          · exact absurd (hI.fresh p' i hl') (Nat.not_lt.mpr hn)
        · exact hI.sep p p' i hl hl' hu
      phys := fun j hj => by
        rw [hne fun h => h.ne_take _ rfl]
        exact hI.phys j hj } }

theorem safe_set {dest : Path} {fs : FS} {q : Path} {k : Kind} (hI : Inv dest fs) (hq : Under dest q)
    (hnone : fs.lookup q = none) (hpar : fs.lookup q.dropLast = some .dir)
    (hk : ∀ i, k = .file i → ∃ src, Under dest src ∧ fs.lookup src = some (.file i)) :
    Safe dest fs (fs.set q k) :=
  safe_update hI hq (fun p => lookup_set fs k p hq.ne_nil) (fun _ h => absurd rfl h) (Nat.le_refl _)
    (noChildren_of_ne_dir hI (hnone ▸ nofun)) (fun _ => hpar) fun i h => by
      obtain ⟨src, hs, hl⟩ := hk i (Option.some.inj h)
      exact ⟨hI.fresh src i hl, .inl ⟨src, hs, hl⟩⟩

theorem safe_newFile {dest : Path} {fs : FS} {q : Path} (c : Nat) (hI : Inv dest fs) (hq : Under dest q)
    (hnone : fs.lookup q = none) (hpar : fs.lookup q.dropLast = some .dir) :
    Safe dest fs ((({ fs with next := fs.next + 1 } : FS).setData fs.next c).set q (.file fs.next)) :=
  safe_update hI hq (fun p => lookup_set _ _ p hq.ne_nil)
    (fun _ h => by
      rw [content_set, content_setData] at h
      split at h
      · rename_i hi; exact Nat.le_of_eq hi.symm
      · exact absurd rfl h)
    (Nat.le_succ _) (noChildren_of_ne_dir hI (hnone ▸ nofun)) (fun _ => hpar) fun i h => by
      cases h
      exact ⟨Nat.lt_succ_self _, .inr (Nat.le_refl _)⟩

theorem safe_del {dest : Path} {fs : FS} {q : Path} (hI : Inv dest fs) (hq : Under dest q)
    (hleaf : NoChildren fs q) : Safe dest fs (fs.del q) :=
  safe_update hI hq (fun p => lookup_del fs p hq.ne_nil) (fun _ h => absurd rfl h) (Nat.le_refl _)
    hleaf (fun h => absurd rfl h) fun _ h => by cases h

theorem safe_write {dest : Path} {fs : FS} {q : Path} {i : Nat} (c : Nat) (hq : Under dest q)
    (hf : fs.lookup q = some (.file i)) : Safe dest fs (fs.setData i c) := by
  refine ⟨fun _ _ => rfl, fun j hne => ?_, fun p j hp hl => .inl ⟨p, hp, hl⟩, Nat.le_refl _,
    fun hi => ⟨hi.wf, hi.fresh, hi.sep, hi.phys⟩⟩
  rw [content_setData] at hne
  split at hne
  · rename_i h; subst h; exact .inl ⟨q, hq, hf⟩
  · exact absurd rfl hne

theorem safe_mkdir {dest : Path} {fs : FS} {fu : Nat} {Q P : Path} (hI : Inv dest fs) (hdd : NoDD Q)
    (hc : Clear fs Q (Q.length - 1)) (hrel : Q <+: dest ∨ dest <+: Q) (hQ : Q <+: P) :
    Quiet dest P fs (mkdir fs fu Q).1 := by
  unfold mkdir
  split
  · rename_i par n hl
    obtain ⟨h1, h2, h3⟩ := walk_missing hl hdd hc
    -- `Q` does not exist, so it is no prefix of `dest`
    have hu : Under dest Q := by
      rcases hrel with hp | hp
      · rw [inv_lookup_prefix hI hp] at h2; cases h2
      · exact under_of_ne_dir hI hp h2 nofun
    have hlook := fun q => lookup_set fs .dir q hu.ne_nil
    rw [h1]
    exact ⟨safe_set hI hu h2 h3 nofun, noNewSym_update hlook nofun,
      fun q hq => by rw [hlook, if_neg fun h : q = Q => hq (h ▸ hQ)]⟩
  · exact .refl _ _ _

theorem safe_mkdirAllR {dest : Path} {fu : Nat} {fs : FS} {P : Path} (hI : Inv dest fs) (hdd : NoDD P)
    (hc : Clear fs P P.length) (hrel : P <+: dest ∨ dest <+: P) : ∀ rp : List Name, rp.reverse <+: P →
    Quiet dest P fs (mkdirAllR fs fu rp).1 := by
  intro rp
  induction rp with
  | nil => exact fun _ => .refl _ _ _
  | cons n rparent ih =>
    intro hp
    unfold mkdirAllR
    simp only [List.reverse_cons] at hp ⊢
    split
    -- the path exists, as a directory or as something else: nothing is done
    · exact .refl _ _ _
    · exact .refl _ _ _
    -- otherwise the parent is made first (`ih`), then `mkdir` of the path itself
    · have h1 := ih ((List.prefix_append _ _).trans hp)
      split
      · rename_i e; rw [e] at h1
        exact h1
      · rename_i fs1 e; rw [e] at h1
        have h2 := safe_mkdir (fu := fu) (h1.safe.inv hI) (fun x hx => hdd x (hp.subset hx))
          ((((clear_prefix hp (Nat.le_refl _)).mpr (hc.le hp.length_le)).le (Nat.sub_le _ _)).mono h1.nosym)
          (comparable_of_prefix hp hrel) hp
        split
        · rename_i e2; rw [e2] at h2
          exact h1.trans h2
        · exact h1

theorem safe_mkdirAll {dest : Path} {fu : Nat} {fs : FS} {P : Path} (hI : Inv dest fs) (hdd : NoDD P)
    (hc : Clear fs P P.length) (hrel : P <+: dest ∨ dest <+: P) : Quiet dest P fs (mkdirAll fs fu P).1 :=
  safe_mkdirAllR hI hdd hc hrel P.reverse (by rw [List.reverse_reverse]; exact List.prefix_refl P)

theorem safe_remove {dest : Path} {fs : FS} {fu : Nat} {P : Path} (hI : Inv dest fs) (hdd : NoDD P)
    (hc : Clear fs P (P.length - 1)) (hu : Under dest P) :
    Safe dest fs (remove fs fu P) ∧ NoNewSym fs (remove fs fu P) ∧
      ∀ q t, lstat fs fu P = .found q (.sym t) → (remove fs fu P).lookup P = none := by
  unfold remove
  have hlook := fun p => lookup_del fs p hu.ne_nil
  have hN : NoNewSym fs (fs.del P) := noNewSym_update hlook nofun
  split
  -- a directory: rmdir if it is empty
  · rename_i q hl
    obtain ⟨rfl, -⟩ := walk_found hl hdd hc
    rw [hl]
    split
    · rename_i hcond
      exact ⟨safe_del hI hu (noChildren_of_isEmptyDir hcond.2), hN, nofun⟩
    · exact ⟨Safe.refl _ _, NoNewSym.refl _, nofun⟩
  -- a file or a symbolic link: unlink
  · rename_i q k hnd hl
    obtain ⟨rfl, hlk⟩ := walk_found hl hdd hc
    refine ⟨safe_del hI hu (noChildren_of_ne_dir hI fun h => ?_), hN,
      fun _ _ _ => by rw [hlook, if_pos rfl]⟩
    rw [hlk] at h
    cases h
    exact hnd rfl
  -- nothing there
  · rename_i hnf
    exact ⟨Safe.refl _ _, NoNewSym.refl _, fun q t h => (hnf q _ h).elim⟩

theorem safe_symlink {dest : Path} {fs : FS} {fu : Nat} {P : Path} (t : Target) (hI : Inv dest fs)
    (hdd : NoDD P) (hc : Clear fs P (P.length - 1)) (hu : Under dest P) :
    Safe dest fs (symlink fs fu t P).1 := by
  unfold symlink
  split
  · rename_i hl
    obtain ⟨h1, h2, h3⟩ := walk_missing hl hdd hc
    rw [h1]
    exact safe_set hI hu h2 h3 nofun
  · exact Safe.refl _ _

theorem safe_link {dest : Path} {fs : FS} {fu : Nat} {old P : Path} (hI : Inv dest fs)
    (hddo : NoDD old) (hco : Clear fs old old.length) (hpo : dest <+: old)
    (hdd : NoDD P) (hc : Clear fs P (P.length - 1)) (hu : Under dest P) :
    Safe dest fs (link fs fu old P).1 := by
  unfold link
  split
  · exact Safe.refl _ _
  · rename_i k _ hlo
    obtain ⟨-, hlk⟩ := walk_found hlo hddo (hco.le (Nat.sub_le _ _))
    split
    · rename_i hl
      obtain ⟨h1, h2, h3⟩ := walk_missing hl hdd hc
      rw [h1]
      -- a hard link to a file: the source lies below `dest` too
      exact safe_set hI hu h2 h3 fun i hi =>
        ⟨old, under_of_ne_dir hI hpo hlk (by rw [hi]; simp), hi ▸ hlk⟩
    · exact Safe.refl _ _
  · exact Safe.refl _ _

theorem safe_openTrunc {dest : Path} {fs : FS} {fu : Nat} {P : Path} (c : Nat) (hI : Inv dest fs)
    (hdd : NoDD P) (hc : Clear fs P P.length) (hp : dest <+: P) :
    Safe dest fs (openTrunc fs fu P c).1 := by
  unfold openTrunc
  split
  · rename_i hl
    obtain ⟨-, hlk⟩ := walk_found hl hdd hc
    exact safe_write c (under_of_ne_dir hI hp hlk (by simp)) hlk
  · rename_i hl
    obtain ⟨h1, h2, h3⟩ := walk_missing hl hdd hc
    rw [h1]
    exact safe_newFile c hI (under_of_ne_dir hI hp h2 (by simp)) h2 h3
  · exact Safe.refl _ _

/-- If the Lstat walk of `checkNoSymlinkComponents` succeeds, no existing component it covers is a
    symbolic link — including components below a missing one (there are none: `wf`). -/
theorem check_sound {dest : Path} {fs : FS} {fu : Nat} (hI : Inv dest fs) (incl : Bool) :
    ∀ (rel : List Name) (cur : Path), Clear fs cur cur.length → NoDD cur → NoDD rel →
      checkNoSym fs fu cur rel incl = true →
      Clear fs (cur ++ rel) (cur.length + (if incl then rel.length else rel.length - 1)) := by
  intro rel
  induction rel with
  | nil =>
    intro cur hc _ _ _
    simpa using hc
  | cons n rest ih =>
    intro cur hc hddc hddr hchk
    have hc0 : Clear fs (cur ++ n :: rest) cur.length :=
      (clear_prefix (List.prefix_append _ _) (Nat.le_refl _)).mp hc
    unfold checkNoSym at hchk
    split at hchk
    -- `n` is the last component and is not to be checked
    · rename_i hcond
      simpa [hcond.1, hcond.2] using hc0
    · rename_i hncond
      have hdd1 : NoDD (cur ++ [n]) := hddc.append (List.forall_mem_singleton.mpr hddr.cons.1)
      have hc1 : Clear fs (cur ++ [n]) ((cur ++ [n]).length - 1) := by
        simpa using (clear_prefix (List.prefix_append _ _) (Nat.le_refl _)).mp hc
      split at hchk
      -- Lstat of `cur ++ [n]`: missing (nothing exists below it either); error and symbolic link
      -- (the check fails); a directory or file (the loop goes on)
      · rename_i hl
        refine clear_of_none hI hc0 ?_ _
        rw [List.take_length_add_append]
        exact (walk_missing hl hdd1 hc1).2.1
      · cases hchk
      · cases hchk
      · rename_i k hnsym hl
        have hlk := (walk_found hl hdd1 hc1).2
        have hc2 := clear_last hc1 fun _ t ht => by
          rw [hlk] at ht; cases ht
          exact hnsym _ rfl
        have := ih (cur ++ [n]) hc2 hdd1 hddr.cons.2 hchk
        rw [List.append_assoc] at this
        have hpos : incl = false → 0 < rest.length := fun hi =>
          List.length_pos_iff.mpr fun h => hncond ⟨h, hi⟩
        exact this.le (by cases incl <;> simp at hpos ⊢ <;> omega)

/-- `check_sound` from `dest`, as the guards of `stepEntry` deliver it; the count is written so that
    it computes to `length` or `length - 1` once `incl` is known. -/
theorem clear_of_check {dest : Path} {fs : FS} {fu : Nat} (hI : Inv dest fs) (hdd : NoDD dest)
    {rel : List Name} (hr : NoDD rel) {incl : Bool} (h : (!checkNoSym fs fu dest rel incl) = false) :
    Clear fs (dest ++ rel) ((dest ++ rel).length - if incl then 0 else 1) :=
  (check_sound hI incl rel dest (clear_dest hI) hdd hr (by simpa using h)).le
    (by cases incl <;> simp <;> omega)

theorem clear_after_unlink {dest : Path} {fs : FS} {fu : Nat} {P : Path} (hI : Inv dest fs) (hdd : NoDD P)
    (hc : Clear fs P (P.length - 1)) (hp : dest <+: P) :
    let fs2 := if isSymRes (lstat fs fu P) then remove fs fu P else fs
    Safe dest fs fs2 ∧ Clear fs2 P P.length := by
  intro fs2
  by_cases hs : isSymRes (lstat fs fu P) = true
  · simp only [fs2, hs, if_true]
    unfold isSymRes at hs
    split at hs
    · rename_i hl
      -- the final component is a symbolic link, so the target is not the destination itself
      have hu := under_of_ne_dir hI hp (walk_found hl hdd hc).2 (by simp)
      obtain ⟨hS, hN, hgone⟩ := safe_remove (fu := fu) hI hdd hc hu
      exact ⟨hS, clear_last (hc.mono hN) fun _ t ht => by rw [hgone _ _ hl] at ht; cases ht⟩
    · cases hs
  · simp only [fs2, hs, Bool.false_eq_true, if_false]
    refine ⟨Safe.refl _ _, clear_last hc fun _ t hlt => ?_⟩
    -- lstat reported no link: it found `P`, or `P` does not exist
    cases hr : lstat fs fu P with
    | found p k =>
      obtain ⟨rfl, hk⟩ := walk_found hr hdd hc
      rw [hlt] at hk; cases hk
      exact hs (by rw [hr]; rfl)
    | missing par n => rw [(walk_missing hr hdd hc).2.1] at hlt; cases hlt
    | err =>
      rw [lstat, walk_lex hdd hc] at hr
      cases (lexRes_err hI hr).symm.trans hlt

theorem safe_bind {dest : Path} {fs : FS} {r : Out} {K : FS → Out} (h1 : Safe dest fs r.1)
    (h2 : Inv dest r.1 → Safe dest r.1 (K r.1).1) (hI : Inv dest fs) :
    Safe dest fs (match r with | (fs1, false) => (fs1, false) | (fs1, true) => K fs1).1 := by
  obtain ⟨fs1, ok⟩ := r
  cases ok
  · exact h1
  · exact h1.trans (h2 (h1.inv hI))

/-- What the three entry kinds that create a name have in common: the check covers every component
    but the last, the parent directories are made, and `K` goes on from there. -/
theorem safe_parent {dest : Path} {fu : Nat} {fs : FS} {rel : List Name} {K : FS → Out} (hI : Inv dest fs)
    (hdd : NoDD dest) (hrel : NoDD rel) (hchk : (!checkNoSym fs fu dest rel false) = false)
    (hK : ∀ fs1, Inv dest fs1 → NoNewSym fs fs1 → Clear fs1 (dest ++ rel) ((dest ++ rel).length - 1) →
      Safe dest fs1 (K fs1).1) :
    Safe dest fs (match mkdirAll fs fu (dest ++ rel).dropLast with
      | (fs1, false) => (fs1, false)
      | (fs1, true) => K fs1).1 := by
  have hc := clear_of_check (fu := fu) hI hdd hrel hchk
  have hQ := safe_mkdirAll (fu := fu) hI (hdd.append hrel).dropLast (clear_dropLast hc)
    (List.prefix_or_prefix_of_prefix (List.dropLast_prefix _) (List.prefix_append _ _))
  exact safe_bind hQ.safe (fun hI1 => hK _ hI1 hQ.nosym (hc.mono hQ.nosym)) hI

/-- The shape of every refusal in `stepEntry true`. -/
theorem safe_guard {dest : Path} {fs : FS} {c : Bool} {y : Out} (h : c = false → Safe dest fs y.1) :
    Safe dest fs (if (true && c) = true then (fs, false) else y).1 := by
  cases c
  · exact h rfl
  · exact Safe.refl _ _

theorem safe_stepEntry {dest : Path} {fu : Nat} {fs : FS} (e : Entry) (hI : Inv dest fs) (hdd : NoDD dest) :
    Safe dest fs (stepEntry true fu dest fs e).1 := by
  unfold stepEntry
  split
  · exact Safe.refl _ _
  · rename_i rel hs
    have hrel := sanitize_nodd hs
    have hddT : NoDD (dest ++ rel) := hdd.append hrel
    have hpre : dest <+: dest ++ rel := List.prefix_append _ _
    have hu : decide (rel = []) = false → Under dest (dest ++ rel) := fun hr =>
      ⟨hpre, fun he => of_decide_eq_false hr (by simpa using he)⟩
    dsimp only
    cases hty : e.ty with
    | other => exact safe_guard fun _ => Safe.refl _ _
    | dir =>
      dsimp only
      refine safe_guard fun hchk => ?_
      exact (safe_mkdirAll hI hddT (clear_of_check hI hdd hrel hchk) (.inr hpre)).safe
    | reg c =>
      dsimp only
      refine safe_guard fun hchk => safe_parent hI hdd hrel hchk fun fs1 hI1 _ hc1 => ?_
      obtain ⟨hS2, hC2⟩ := clear_after_unlink (fu := fu) hI1 hddT hc1 hpre
      exact hS2.trans (safe_openTrunc c (hS2.inv hI1) hddT hC2 hpre)
    | sym t =>
      dsimp only
      refine safe_guard fun hchk => safe_guard fun hr => ?_
      split
      · exact Safe.refl _ _
      refine safe_parent hI hdd hrel hchk fun fs1 hI1 _ hc1 => ?_
      obtain ⟨hS2, hN2, -⟩ := safe_remove (fu := fu) hI1 hddT hc1 (hu hr)
      exact hS2.trans (safe_symlink t (hS2.inv hI1) hddT (hc1.mono hN2) (hu hr))
    | hard t =>
      dsimp only
      refine safe_guard fun hchk => safe_guard fun hr => ?_
      split
      · exact Safe.refl _ _
      rename_i lrel hs2
      refine safe_guard fun hchk2 => ?_
      have hlrel := sanitize_nodd hs2
      have hco := clear_of_check (fu := fu) hI hdd hlrel hchk2
      refine safe_parent hI hdd hrel hchk fun fs1 hI1 hN1 hc1 => ?_
      obtain ⟨hS2, hN2, -⟩ := safe_remove (fu := fu) hI1 hddT hc1 (hu hr)
      exact hS2.trans
        (safe_link (hS2.inv hI1) (hdd.append hlrel) ((hco.mono hN1).mono hN2)
          (List.prefix_append _ _) hddT (hc1.mono hN2) (hu hr))

theorem safe_untarLoop {dest : Path} {fu : Nat} (hdd : NoDD dest) : ∀ (es : List Entry) (fs : FS),
    Inv dest fs → Safe dest fs (untarLoop true fu dest fs es).1 := by
  intro es
  induction es with
  | nil => exact fun fs _ => Safe.refl _ _
  | cons e es ih => exact fun fs hI => safe_bind (safe_stepEntry e hI hdd) (ih _) hI

theorem safe_untar {dest : Path} {fu : Nat} {fs : FS} (es : List Entry) (hI : Inv dest fs) (hdd : NoDD dest) :
    Safe dest fs (untar true fu dest fs es).1 :=
  safe_bind (safe_mkdirAll hI hdd (clear_dest hI) (.inl (List.prefix_refl dest))).safe
    (safe_untarLoop hdd es _) hI

def underB (dest q : Path) : Bool := dest.isPrefixOf q && q != dest

/-- A decidable sufficient condition for `Inv` (used for the non-vacuity examples). -/
def invB (dest : Path) (fs : FS) : Bool :=
  fs.ents.all (fun e => e.1 == [] || fs.lookup e.1.dropLast == some .dir) &&
  fs.ents.all (fun e => match e.2 with | .file i => decide (i < fs.next) | _ => true) &&
  fs.ents.all (fun e => fs.ents.all (fun e' =>
    match e.2, e'.2 with
    | .file i, .file j => i != j || !underB dest e.1 || underB dest e'.1
    | _, _ => true)) &&
  (List.range dest.length).all (fun j => fs.lookup (dest.take (j + 1)) == some .dir)

theorem underB_iff {dest q : Path} : underB dest q = true ↔ Under dest q := by
  unfold underB Under
  simp [List.isPrefixOf_iff_prefix]

theorem invB_sound {dest : Path} {fs : FS} (h : invB dest fs = true) : Inv dest fs := by
  unfold invB at h
  simp only [Bool.and_eq_true] at h
  obtain ⟨⟨⟨h1, h2⟩, h3⟩, h4⟩ := h
  have hfile : ∀ {p i}, fs.lookup p = some (.file i) → (p, Kind.file i) ∈ fs.ents := fun {p i} hl =>
    lookup_mem (fun hp => by rw [hp, lookup_nil] at hl; cases hl) hl
  exact {
    wf := fun p k hp hl => by simpa [hp] using List.all_eq_true.mp h1 _ (lookup_mem hp hl)
    fresh := fun p i hl => by simpa using List.all_eq_true.mp h2 _ (hfile hl)
    sep := fun p q i hl hl' hu => by
      simpa [underB_iff.mpr hu, underB_iff] using
        List.all_eq_true.mp (List.all_eq_true.mp h3 _ (hfile hl)) _ (hfile hl')
    phys := fun j hj => by simpa using List.all_eq_true.mp h4 j (List.mem_range.mpr hj) }

end MM.C27

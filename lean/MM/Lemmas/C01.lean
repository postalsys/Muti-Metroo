/-
  C01 helper lemmas: what `encrypt` and `decrypt` do, the invariant of one end (`EndInv`, the end is
  a variable), and its preservation along a trace.
-/
import MM.Model.C01

namespace MM.C01

/-- Counters strictly decreasing from head to tail (logs are newest-first) and all below `b`. -/
def Desc : Nat → List (Nat × Nat) → Prop
  | _, [] => True
  | b, x :: rest => x.1 < b ∧ Desc x.1 rest

theorem Desc.mono {b b' : Nat} {l : List (Nat × Nat)} (h : b ≤ b') (d : Desc b l) : Desc b' l := by
  cases l with
  | nil => trivial
  | cons x rest => exact ⟨Nat.lt_of_lt_of_le d.1 h, d.2⟩

theorem Desc.lt_of_mem {b : Nat} {l : List (Nat × Nat)} {x : Nat × Nat} (d : Desc b l) (hx : x ∈ l) :
    x.1 < b := by
  induction l generalizing b with
  | nil => cases hx
  | cons y rest ih =>
    cases hx with
    | head => exact d.1
    | tail _ h => exact Nat.lt_trans (ih d.2 h) d.1

theorem Desc.pairwise {b : Nat} {l : List (Nat × Nat)} (d : Desc b l) :
    l.Pairwise (fun x y => y.1 < x.1) := by
  induction l generalizing b with
  | nil => exact List.Pairwise.nil
  | cons y rest ih => exact List.Pairwise.cons (fun z hz => d.2.lt_of_mem hz) (ih d.2)

theorem Desc.nodup {b : Nat} {l : List (Nat × Nat)} (d : Desc b l) : l.Nodup :=
  d.pairwise.imp (S := (· ≠ ·)) fun hlt hab => Nat.lt_irrefl _ (hab ▸ hlt)

theorem Desc.sublist {l1 l2 : List (Nat × Nat)} {b1 b2 : Nat} (d1 : Desc b1 l1) (d2 : Desc b2 l2)
    (hsub : ∀ x ∈ l1, x ∈ l2) : l1.Sublist l2 := by
  -- strictly sorted lists with the same elements are equal: `l1` is `l2` filtered
  have e : l1 = l2.filter (· ∈ l1) :=
    List.Perm.eq_of_pairwise (le := fun x y => y.1 < x.1)
      (fun _ _ _ _ h h' => absurd (Nat.lt_trans h h') (Nat.lt_irrefl _))
      d1.pairwise (d2.pairwise.filter _)
      ((List.perm_ext_iff_of_nodup d1.nodup (d2.nodup.filter _)).mpr fun a => by
        simpa [List.mem_filter] using hsub a)
  exact e ▸ List.filter_sublist

theorem succ_lt_W_iff {n : Nat} (h : n < W) : n + 1 < W ↔ n ≠ maxCtr := by
  unfold W maxCtr at *; omega

theorem encrypt_none {s s' : Sess} {m plen : Nat} (h : encrypt s m plen = (s', none)) : s' = s := by
  revert h
  fun_cases encrypt s m plen <;> intro h <;> cases h
  rfl

theorem encrypt_some {s s' : Sess} {m plen : Nat} {p : Packet} (hs : s.send < W)
    (h : encrypt s m plen = (s', some p)) :
    s.send + 1 < W ∧ s' = { s with send := s.send + 1 } ∧
      p = ⟨sendPfx s.isInit, s.send, .sealed (sendPfx s.isInit) s.send m, overhead + plen⟩ := by
  revert h
  fun_cases encrypt s m plen <;> intro h <;> cases h
  case case2 hne _ _ =>
    have hlt := (succ_lt_W_iff hs).mpr hne
    exact ⟨hlt, by rw [Nat.mod_eq_of_lt hlt], rfl⟩

theorem aeadOpen_some {p : Packet} {m : Nat} (h : aeadOpen p = some m) :
    p.body = .sealed p.pfx p.ctr m := by
  revert h
  fun_cases aeadOpen p
  case case1 q c m' hb hc => exact fun h => Option.some.inj h ▸ hc.1 ▸ hc.2 ▸ hb
  all_goals nofun

theorem aeadOpen_sealed (pfx ctr m len : Nat) : aeadOpen ⟨pfx, ctr, .sealed pfx ctr m, len⟩ = some m :=
  if_pos ⟨rfl, rfl⟩

theorem decrypt_cases {s s' : Sess} {p : Packet} {r : Res} (h : decrypt s p = (s', r)) :
    (r.isAcc = false ∧ s' = s) ∨
    ∃ m, r = .acc p.ctr m ∧ s' = { s with recv := (p.ctr + 1) % W } ∧ p.pfx = recvPfx s.isInit ∧
      s.recv ≤ p.ctr ∧ p.ctr ≠ maxCtr ∧ aeadOpen p = some m := by
  revert h
  fun_cases decrypt s p <;> intro h <;> cases h
  case case6 hp hw hx m ho =>
    exact .inr ⟨m, rfl, rfl, Decidable.of_not_not hp, Nat.not_lt.mp hw, hx, ho⟩
  all_goals exact .inl ⟨rfl, rfl⟩

theorem admissiblePkt_spec {st : St} {p : Packet} (h : admissiblePkt st p = true) :
    p.ctr < W ∧ p.pfx < 4294967296 ∧ (p.body = .junk ∨ p.body ∈ st.sealedBodies) := by
  unfold admissiblePkt at h
  simp only [Bool.and_eq_true, Bool.or_eq_true, decide_eq_true_eq, beq_iff_eq,
    List.contains_iff_mem] at h
  exact ⟨h.1.1, h.1.2, h.2⟩

theorem sealed_mem_map {q q' c m : Nat} {l : List (Nat × Nat)}
    (h : Body.sealed q c m ∈ l.map (fun cm => Body.sealed q' cm.1 cm.2)) : q = q' ∧ (c, m) ∈ l := by
  obtain ⟨x, hx, hb⟩ := List.mem_map.mp h
  cases hb
  exact ⟨rfl, hx⟩

theorem sealed_from {st : St} {e : Bool} {c m : Nat}
    (h : Body.sealed (recvPfx e) c m ∈ st.sealedBodies) :
    (c, m) ∈ (if e then st.sentR else st.sentI) := by
  cases e
  · rcases List.mem_append.mp h with h | h
    · exact (sealed_mem_map h).2
    · exact absurd (sealed_mem_map h).1 (by decide)
  · rcases List.mem_append.mp h with h | h
    · exact absurd (sealed_mem_map h).1 (by decide)
    · exact (sealed_mem_map h).2

theorem accept {st : St} {e : Bool} {s s' : Sess} {p : Packet} {c m : Nat} (hrole : s.isInit = e)
    (ha : admissiblePkt st p = true) (h : decrypt s p = (s', .acc c m)) :
    (c, m) ∈ (if e then st.sentR else st.sentI) ∧ s.recv ≤ c ∧ s' = { s with recv := c + 1 } := by
  obtain ⟨hr, _⟩ | ⟨_, hr, rfl, hp, hge, hmax, hopen⟩ := decrypt_cases h
  · cases hr
  cases hr
  obtain ⟨hw, _, hb⟩ := admissiblePkt_spec ha
  have hlt := (succ_lt_W_iff hw).mpr hmax
  rw [aeadOpen_some hopen, hp, hrole] at hb
  exact ⟨sealed_from (hb.resolve_left nofun), hge, by rw [Nat.mod_eq_of_lt hlt]⟩

/-- The invariant of one end `e` of the session, with its two logs and the log of what the peer
    sealed. -/
structure EndInv (e : Bool) (s : Sess) (sent acc peerSent : List (Nat × Nat)) : Prop where
  role : s.isInit = e
  inRange : s.send < W
  sentBelow : Desc s.send sent
  accBelow : Desc s.recv acc
  auth : ∀ x ∈ acc, x ∈ peerSent

section
variable {e : Bool} {s : Sess} {sent acc peer : List (Nat × Nat)} (h : EndInv e s sent acc peer)
include h

theorem EndInv.after_seal (hlt : s.send + 1 < W) (m : Nat) :
    EndInv e { s with send := s.send + 1 } ((s.send, m) :: sent) acc peer :=
  { h with inRange := hlt, sentBelow := ⟨Nat.lt_succ_self _, h.sentBelow⟩ }

theorem EndInv.after_peer_seal (x : Nat × Nat) : EndInv e s sent acc (x :: peer) :=
  { h with auth := fun y hy => List.mem_cons_of_mem _ (h.auth y hy) }

theorem EndInv.after_accept {c m : Nat} (hmem : (c, m) ∈ peer) (hge : s.recv ≤ c) :
    EndInv e { s with recv := c + 1 } sent ((c, m) :: acc) peer :=
  { h with
    accBelow := ⟨Nat.lt_succ_self _, h.accBelow.mono hge⟩
    auth := List.forall_mem_cons.mpr ⟨hmem, h.auth⟩ }

theorem EndInv.fresh {st : St} {p : Packet} {s' : Sess} {c m : Nat}
    (ha : admissiblePkt st p = true) (hd : decrypt s p = (s', .acc c m)) :
    (c, m) ∈ (if e then st.sentR else st.sentI) ∧ ∀ x ∈ acc, x.1 < c := by
  obtain ⟨hmem, hge, _⟩ := accept h.role ha hd
  exact ⟨hmem, fun x hx => Nat.lt_of_lt_of_le (h.accBelow.lt_of_mem hx) hge⟩

end

structure Inv (st : St) : Prop where
  i : EndInv true st.i st.sentI st.accI st.sentR
  r : EndInv false st.r st.sentR st.accR st.sentI

theorem inv_init : Inv init := by
  have h0 : (0 : Nat) < W := by decide
  exact ⟨⟨rfl, h0, trivial, trivial, nofun⟩, ⟨rfl, h0, trivial, trivial, nofun⟩⟩

theorem inv_step {st : St} (inv : Inv st) (op : Op) (ha : admissible st op = true) :
    Inv (step st op).1 := by
  -- cases of `step`: 1–4 are `encI`, `encR` (each: sealed, exhausted),
  -- 5–8 are `delI`, `delR` (each: accepted, rejected)
  fun_cases step st op
  case case1 m _ _ _ he =>
    obtain ⟨hlt, rfl, rfl⟩ := encrypt_some inv.i.inRange he
    exact ⟨inv.i.after_seal hlt m, inv.r.after_peer_seal _⟩
  case case3 m _ _ _ he =>
    obtain ⟨hlt, rfl, rfl⟩ := encrypt_some inv.r.inRange he
    exact ⟨inv.i.after_peer_seal _, inv.r.after_seal hlt m⟩
  case case2 he | case4 he => rw [encrypt_none he]; exact inv
  case case5 hd =>
    obtain ⟨hmem, hge, rfl⟩ := accept inv.i.role ha hd
    exact ⟨inv.i.after_accept hmem hge, inv.r⟩
  case case7 hd =>
    obtain ⟨hmem, hge, rfl⟩ := accept inv.r.role ha hd
    exact ⟨inv.i, inv.r.after_accept hmem hge⟩
  case case6 hna hd | case8 hna hd =>
    obtain ⟨_, rfl⟩ | ⟨_, hr, _⟩ := decrypt_cases hd
    · exact inv
    · exact (hna _ _ hr).elim

theorem inv_exec {st st' : St} (inv : Inv st) (tr : List Op) (h : exec st tr = some st') : Inv st' := by
  induction tr generalizing st with
  | nil => cases h; exact inv
  | cons op rest ih =>
    obtain ⟨ha, h⟩ := Option.ite_none_right_eq_some.1 h
    exact ih (inv_step inv op ha) h

end MM.C01

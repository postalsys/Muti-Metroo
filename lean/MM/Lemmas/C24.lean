/-
  C24 (HTTP auth and mux): what each stage of the model does — splitting and cleaning a path, the
  routing-tree lookup (`longest`, `matchSegs`, `patMatches`, `covers`), the redirect rules
  (`decideSegs`, `muxRoute_cases`), `serve` / `serveMux` by cases, and bcrypt's 72-byte key.
-/
import MM.Model.C24

namespace MM.C24

theorem splitOn_no_sep {α : Type} [DecidableEq α] (sep : α) (l : List α) (h : ∀ c ∈ l, c ≠ sep) :
    splitOn sep l = [l] := by
  induction l with
  | nil => rfl
  | cons c cs ih =>
    obtain ⟨hc, hcs⟩ := List.forall_mem_cons.mp h
    simp [splitOn, hc, ih hcs]

/-- What the routing tree sees of a path whose decoded form is `d` and that has no literal '/'
    after its first byte. -/
def segsOfDecoded (d : List Char) : List (List Char) × Bool :=
  if d.drop 1 = [] then ([], true) else ([d.drop 1], false)

theorem segsOf_noSlash (x : PC) (rest : Raw) (h : ∀ c ∈ rest, c ≠ slash) :
    segsOf (x :: rest) = segsOfDecoded (decoded (x :: rest)) := by
  unfold segsOf segsOfDecoded
  simp only [List.drop_succ_cons, List.drop_zero, splitOn_no_sep slash rest h, decoded, List.map_cons]
  cases rest <;> simp

theorem joinSegs_head (segs : List Raw) : (joinSegs segs).head? = some slash := by
  fun_cases joinSegs segs
  · rfl
  · cases segs with
    | nil => contradiction
    | cons s ss => rfl

theorem cleanPath_head (p : Raw) : (cleanPath p).head? = some slash := by
  fun_cases cleanPath p
  · rfl
  · rw [List.head?_append, joinSegs_head]; rfl
  · exact joinSegs_head _

theorem cleanPath_one_segment (rest : Raw) (h : ∀ c ∈ rest, c ≠ slash) (h1 : rest ≠ dot)
    (h2 : rest ≠ dotdot) : cleanPath (slash :: rest) = slash :: rest := by
  cases rest with
  | nil => decide
  | cons a as =>
    have hlast : (slash :: a :: as).getLast? ≠ some slash := fun hl =>
      h slash (List.mem_of_getLast? (List.getLast?_cons_cons ▸ hl)) rfl
    have hsp : splitOn slash (slash :: a :: as) = [[], a :: as] := by
      rw [splitOn, if_pos rfl, splitOn_no_sep slash (a :: as) h]
    have hcs : cleanSegs [] [[], a :: as] = [a :: as] := by
      simp [cleanSegs, h1, h2]
    have hj : joinSegs [a :: as] = slash :: a :: as := by simp [joinSegs]
    unfold cleanPath
    simp only [List.cons_ne_nil, if_false, List.head?_cons, if_true]
    rw [hsp, hcs, hj, if_neg (fun hh => hlast hh.1)]

theorem longest_none {l : List Route} (h : longest l = none) : l = [] := by
  revert h
  fun_cases longest l
  · exact fun _ => rfl
  all_goals nofun

theorem longest_spec {l : List Route} {m : Route} (h : longest l = some m) :
    m ∈ l ∧ ∀ x ∈ l, x.segs.length ≤ m.segs.length := by
  revert h
  fun_induction longest l generalizing m
  · nofun
  · -- the tail is empty
    rename_i hl _
    rintro ⟨⟩
    rw [longest_none hl]
    exact ⟨List.mem_cons_self .., List.forall_mem_cons.mpr ⟨Nat.le_refl _, nofun⟩⟩
  · -- the tail's longest is longer than the head
    rename_i hl hgt ih
    rintro ⟨⟩
    have ⟨hb, hmax⟩ := ih hl
    exact ⟨List.mem_cons_of_mem _ hb, List.forall_mem_cons.mpr ⟨by omega, hmax⟩⟩
  · -- the head is at least as long
    rename_i hl hgt ih
    rintro ⟨⟩
    have ⟨_, hmax⟩ := ih hl
    exact ⟨List.mem_cons_self ..,
      List.forall_mem_cons.mpr ⟨Nat.le_refl _, fun x hx => by have := hmax x hx; omega⟩⟩

theorem matchSegs_mem {act : List Route} {s : List (List Char)} {t : Bool} {m : Route}
    (h : matchSegs act s t = some m) : m ∈ act := by
  revert h
  fun_cases matchSegs act s t
  · rename_i hf
    rintro ⟨⟩
    exact List.mem_of_find?_eq_some hf
  · exact fun h => (List.mem_filter.mp (longest_spec h).1).1

theorem patMatches_subtree {r : Route} {s : List (List Char)} {t : Bool} (h : r.subtree = true) :
    patMatches r s t = true ↔ r.segs <+: s ∧ (t = true ∨ r.segs.length < s.length) := by
  simp only [patMatches, h, if_true, Bool.and_eq_true, Bool.or_eq_true, decide_eq_true_eq,
    List.isPrefixOf_iff_prefix]

theorem patMatches_exact {r : Route} {s : List (List Char)} {t : Bool} (h : r.subtree = false) :
    patMatches r s t = true ↔ t = false ∧ r.segs = s := by
  simp only [patMatches, h, Bool.false_eq_true, if_false, Bool.and_eq_true, Bool.not_eq_true',
    beq_iff_eq]

theorem patMatches_prefix {q : Route} {s : List (List Char)} {t : Bool}
    (h : patMatches q s t = true) : q.segs <+: s := by
  cases hs : q.subtree with
  | true => exact ((patMatches_subtree hs).mp h).1
  | false => exact ((patMatches_exact hs).mp h).2 ▸ List.prefix_refl _

theorem matchSegs_of_match {act : List Route} {s : List (List Char)} {t : Bool} {q : Route}
    (hq : q ∈ act) (hm : patMatches q s t = true) :
    ∃ m, matchSegs act s t = some m ∧ q.segs <+: m.segs := by
  unfold matchSegs
  split
  · rename_i r hf
    -- an exact pattern matched: its segments are the path's
    have hr := List.find?_some hf
    simp only [Bool.and_eq_true, Bool.not_eq_true'] at hr
    exact ⟨r, rfl, ((patMatches_exact hr.1).mp hr.2).2 ▸ patMatches_prefix hm⟩
  · rename_i hnone
    -- no exact pattern matched: `q` is one of the matching subtree patterns, the longest of which wins
    have hsub : q.subtree = true := by
      simpa [hm] using List.find?_eq_none.mp hnone q hq
    have hqf : q ∈ act.filter (fun r => r.subtree && patMatches r s t) := by
      simp [List.mem_filter, hq, hsub, hm]
    cases hl : longest (act.filter (fun r => r.subtree && patMatches r s t)) with
    | none => rw [longest_none hl] at hqf; cases hqf
    | some m =>
      have ⟨hmem, hmax⟩ := longest_spec hl
      have hmm := (Bool.and_eq_true_iff.mp (List.mem_filter.mp hmem).2).2
      exact ⟨m, rfl, List.prefix_of_prefix_length_le (patMatches_prefix hm) (patMatches_prefix hmm)
        (hmax q hqf)⟩

/-- `q` matches every path `p` matches. -/
def covers (q p : Route) : Bool :=
  (q.subtree == p.subtree && q.segs == p.segs) ||
  (q.subtree && q.segs.isPrefixOf p.segs && (decide (q.segs.length < p.segs.length) || p.subtree))

theorem covers_matches {q p : Route} (hc : covers q p = true) {s : List (List Char)} {t : Bool}
    (hm : patMatches p s t = true) : patMatches q s t = true := by
  unfold covers at hc
  rcases Bool.or_eq_true _ _ |>.mp hc with h | h
  · -- same kind, same segments
    simp only [Bool.and_eq_true, beq_iff_eq] at h
    unfold patMatches at hm ⊢
    rw [h.1, h.2]; exact hm
  · -- `q` is a subtree pattern above `p`
    simp only [Bool.and_eq_true, Bool.or_eq_true, decide_eq_true_eq,
      List.isPrefixOf_iff_prefix] at h
    obtain ⟨⟨hqs, hpre⟩, hlen⟩ := h
    have hle := hpre.length_le
    refine (patMatches_subtree hqs).mpr ⟨hpre.trans (patMatches_prefix hm), ?_⟩
    cases hpsub : p.subtree with
    | true => exact ((patMatches_subtree hpsub).mp hm).2.imp_right (fun h1 => by omega)
    | false =>
      rw [← ((patMatches_exact hpsub).mp hm).2]
      exact Or.inr (hlen.resolve_right (hpsub ▸ Bool.false_ne_true))

theorem decideSegs_changed (act : List Route) (segs : List (List Char)) (tr : Bool) :
    decideSegs act false true segs tr = .redirect := by
  fun_cases decideSegs act false true segs tr
  · rfl
  · rfl
  all_goals contradiction

theorem decideSegs_route {act : List Route} {c ch : Bool} {segs : List (List Char)} {tr : Bool}
    {rt : Route} (h : decideSegs act c ch segs tr = .route rt) : matchSegs act segs tr = some rt := by
  revert h
  fun_cases decideSegs act c ch segs tr
  · nofun
  · nofun
  · nofun
  · rintro ⟨⟩; assumption

theorem decideSegs_some {act : List Route} {c ch : Bool} {segs : List (List Char)} {tr : Bool}
    {m : Route} (hm : matchSegs act segs tr = some m) :
    decideSegs act c ch segs tr = .redirect ∨ decideSegs act c ch segs tr = .route m := by
  fun_cases decideSegs act c ch segs tr
  · exact Or.inl rfl
  · exact Or.inl rfl
  · rename_i hn; cases hm.symm.trans hn
  · rename_i hn; cases hm.symm.trans hn; exact Or.inr rfl

/-- A path that cleaning changes is redirected; any other is looked up by its own segments. -/
theorem muxRoute_cases (act : List Route) (conn : Bool) (p : Raw) :
    muxRoute act conn p = .redirect ∨
    muxRoute act conn p = decideSegs act conn false (segsOf p).1 (segsOf p).2 := by
  unfold muxRoute
  dsimp only
  by_cases hm : mpath conn p = p
  · right
    rw [hm, decide_eq_false (fun hne : p ≠ p => hne rfl)]
  · left
    cases conn with
    | true => exact absurd rfl hm
    | false => rw [decide_eq_true hm, decideSegs_changed]

theorem serve_cases (valid : List Char → Bool) (tc : Bool) (f : Flags) (r : Req) :
    serve valid tc f r = serveMux f r ∨ serve valid tc f r = ⟨.s401, none, false⟩ := by
  fun_cases serve valid tc f r
  · exact Or.inl rfl
  · exact Or.inl rfl
  · exact Or.inr rfl
  · exact Or.inl rfl

theorem serveMux_route {f : Flags} {r : Req} {rt : Route} (h : (serveMux f r).route = some rt) :
    muxRoute (active f) r.connect r.path = .route rt := by
  revert h
  fun_cases serveMux f r
  · nofun
  · nofun
  all_goals rintro ⟨⟩; assumption

theorem serveMux_disabled {f : Flags} {r : Req} {rt : Route}
    (hm : muxRoute (active f) r.connect r.path = .route rt) (hd : rt.disabled = true) :
    serveMux f r = ⟨.s404, some rt, false⟩ := by
  unfold serveMux
  rw [hm]
  simp only [hd, if_true]

theorem key_at {p : List Char} {i : Nat} (hi : i < 72) :
    (bcryptKey p)[i]? = some ((p ++ [NUL]).getD (i % (p.length + 1)) NUL) := by
  unfold bcryptKey
  rw [List.getElem?_map, List.getElem?_range hi]
  rfl

theorem key_lt {p : List Char} {i : Nat} (hi : i < p.length) (h72 : i < 72) :
    (bcryptKey p)[i]? = some p[i] := by
  rw [key_at h72, Nat.mod_eq_of_lt (by omega)]
  simp [List.getD_eq_getElem?_getD, List.getElem?_append_left hi, hi]

theorem key_len {p : List Char} (h : p.length < 72) : (bcryptKey p)[p.length]? = some NUL := by
  rw [key_at h, Nat.mod_eq_of_lt (by omega)]
  simp [List.getD_eq_getElem?_getD]

theorem bcryptKey_of_le {p : List Char} (h : 72 ≤ p.length) : bcryptKey p = p.take 72 := by
  have hl : (bcryptKey p).length = 72 := by simp only [bcryptKey, List.length_map, List.length_range]
  apply List.ext_getElem (by rw [hl, List.length_take, Nat.min_eq_left h])
  intro i h1 h2
  have hk := key_lt (p := p) (i := i) (by omega) (by omega)
  rw [List.getElem?_eq_getElem h1] at hk
  rw [List.getElem_take]
  exact Option.some.inj hk

theorem key_not_shorter {p t : List Char} (ht : t.length ≤ 72) (htn : NUL ∉ t)
    (hk : bcryptKey p = bcryptKey t) : ¬ p.length < t.length := by
  intro hlt
  -- at index `p.length` the key of `p` has its NUL, the key of `t` a byte of `t`
  have h := key_len (p := p) (by omega)
  rw [hk, key_lt hlt (by omega)] at h
  exact htn (Option.some.inj h ▸ List.getElem_mem hlt)

end MM.C24

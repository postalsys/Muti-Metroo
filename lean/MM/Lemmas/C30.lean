/-
  Helper lemmas for C30: the effective transitions of `step` as rules (`Fires`, `step_cases`),
  thread-list bookkeeping and the persistence invariant.
-/
import MM.Model.C30

namespace MM.C30

/-- The transitions that do something.  Every other step — a refused `Sleep()` / `Wake()`, a `Poll()`
    that finds the agent not sleeping, a label whose thread is not at that point, a restart while a
    poll is in flight — returns the state unchanged and runs no callback (`step_cases`). -/
inductive Fires (s : S) : Label → S × Res × List Event → Prop
  | sleep : s.st = .awake →
      Fires s .sleep ({ s with st := .sleeping, file := some .sleeping }, .ok, [.onSleep])
  | wake : s.st ≠ .awake →
      Fires s .wake ({ s with st := .awake, file := some .awake, wakes := s.wakes + 1 }, .ok, [.onWake])
  | pollBegin {i t} : s.threads[i]? = some t → t.pc = .idle → s.st = .sleeping →
      Fires s (.pollBegin i)
        ({ s with st := .polling, threads := setThread s.threads i { pc := .afterP1, epoch := s.wakes } }, .ok, [])
  | pollInvoke {i t} : s.threads[i]? = some t → t.pc = .afterP1 →
      Fires s (.pollInvoke i)
        ({ s with threads := setThread s.threads i { t with pc := .inCb } }, .ok,
         [.onPoll i (decide (s.wakes > t.epoch))])
  | pollReturn {i t} : s.threads[i]? = some t → t.pc = .inCb →
      Fires s (.pollReturn i) ({ s with threads := setThread s.threads i { t with pc := .waiting } }, .ok, [])
  | pollEndAwake {i t} : s.threads[i]? = some t → t.pc = .waiting → s.st = .awake →
      Fires s (.pollEnd i) ({ s with threads := setThread s.threads i { t with pc := .idle } }, .skipped, [])
  | pollEnd {i t} : s.threads[i]? = some t → t.pc = .waiting → s.st ≠ .awake →
      Fires s (.pollEnd i)
        ({ s with st := .sleeping, file := some .sleeping, threads := setThread s.threads i { t with pc := .idle } },
         .ok, [.onPollEnd i (decide (s.wakes > t.epoch))])
  | restart (g : Bool) : allIdle s = true →
      Fires s (.restart g)
        ({ st := loaded (if g then some s.st else s.file), file := if g then some s.st else s.file, wakes := 0,
           threads := s.threads.map fun _ => { pc := .idle, epoch := 0 } }, .ok, [])

theorem step_cases (s : S) (l : Label) : (∃ res, step s l = (s, res, [])) ∨ Fires s l (step s l) := by
  -- the branches of `step` in the order they are written; those not named return `(s, _, [])`
  fun_cases step s l
  case case1 ha => exact Or.inr (.sleep ha)
  case case4 ha => exact Or.inr (.wake ha)
  case case7 ht hpc hs => exact Or.inr (.pollBegin ht (Classical.not_not.mp hpc) (Classical.not_not.mp hs))
  case case10 ht hpc => exact Or.inr (.pollInvoke ht (Classical.not_not.mp hpc))
  case case13 ht hpc => exact Or.inr (.pollReturn ht (Classical.not_not.mp hpc))
  case case16 ht hpc ha => exact Or.inr (.pollEndAwake ht (Classical.not_not.mp hpc) ha)
  case case17 ht hpc ha => exact Or.inr (.pollEnd ht (Classical.not_not.mp hpc) ha)
  case case20 g hq _ => exact Or.inr (.restart g (by simpa [allIdle] using hq))
  all_goals exact Or.inl ⟨_, rfl⟩

/-- The state `LoadState` has to find for an in-memory state: the state itself, except that POLLING is
    deliberately not persisted (the file then says SLEEPING). -/
def persisted : St → St
  | .polling => .sleeping
  | st => st

/-- The persistence invariant: what `LoadState` would read is the in-memory state as it is persisted; and in
    state POLLING some Poll() is in flight, so in a quiescent state it is the in-memory state itself. -/
def Inv (s : S) : Prop := loaded s.file = persisted s.st ∧ (s.st = .polling → allIdle s = false)

theorem set_not_allIdle {l : List Thread} {i : Nat} {t u : Thread} (h : l[i]? = some u) (ht : t.pc ≠ .idle) :
    (setThread l i t).all (fun t => t.pc == .idle) = false :=
  List.all_eq_false.mpr ⟨t, List.mem_set (List.getElem?_eq_some_iff.mp h).1 t, by simpa using ht⟩

theorem inv_init (n : Nat) : Inv (S.init n) := ⟨rfl, nofun⟩

theorem persisted_quiescent {s : S} (h : Inv s) (hq : allIdle s = true) : persisted s.st = s.st := by
  cases hs : s.st with
  | polling => rw [h.2 hs] at hq; cases hq
  | _ => rfl

theorem loaded_eq {f : Option St} {st : St} (h : loaded f = st) : f = some st ∨ (f = none ∧ st = .awake) := by
  cases f with
  | none => exact Or.inr ⟨rfl, h.symm⟩
  | some x => exact Or.inl (congrArg some h)

theorem inv_quiescent {s : S} (h : Inv s) (hq : allIdle s = true) :
    s.file = some s.st ∨ (s.file = none ∧ s.st = .awake) :=
  loaded_eq (h.1.trans (persisted_quiescent h hq))

/-- The file a restart at a quiescent point reads — the one `Stop()` has just written (`g`) or the one on
    disk — makes `LoadState` resume the in-memory state. -/
theorem restart_loaded {s : S} (h : Inv s) (hq : allIdle s = true) (g : Bool) :
    loaded (if g then some s.st else s.file) = s.st := by
  cases g with
  | true => rfl
  | false => exact h.1.trans (persisted_quiescent h hq)

theorem inv_step (s : S) (l : Label) (h : Inv s) : Inv (step s l).1 := by
  obtain ⟨h1, h2⟩ := h
  rcases step_cases s l with ⟨res, e⟩ | hf
  · rw [e]; exact ⟨h1, h2⟩
  · generalize step s l = out at hf
    cases hf with
    | sleep | wake | pollEnd => exact ⟨rfl, nofun⟩
    | pollBegin ht _ hs => exact ⟨h1.trans (by rw [hs]; rfl), fun _ => set_not_allIdle ht nofun⟩
    | pollInvoke ht | pollReturn ht => exact ⟨h1, fun _ => set_not_allIdle ht nofun⟩
    | pollEndAwake _ _ ha => exact ⟨h1, fun h => by rw [ha] at h; cases h⟩
    | restart g hq =>
      have hl := restart_loaded ⟨h1, h2⟩ hq g
      have hp := persisted_quiescent ⟨h1, h2⟩ hq
      exact ⟨by rw [hl, hp], fun hpoll => by rw [hl] at hpoll; rw [hpoll] at hp; cases hp⟩

theorem inv_reachable {n : Nat} {s : S} (h : Reachable n s) : Inv s := by
  induction h with
  | init => exact inv_init n
  | step l _ ih => exact inv_step _ l ih

end MM.C30

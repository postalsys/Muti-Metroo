/-
  Helper lemmas for C33: the quotient the fixed `cycleStart` computes from Go's
  truncating `/` and `%` is `Int`'s floor division, so a cycle index is determined by any point of the
  cycle; bounds of the clamped window length and of the per-agent offset; the closed form of
  `cycleStart` on valid inputs.
-/
import MM.Model.C33

namespace MM.C33

/-- Go's truncating quotient, lowered by one when the remainder is negative (the fixed `cycleStart`),
    is the floor quotient. -/
theorem floor_eq_ediv (a : Int) {C : Int} (hC : 0 < C) :
    (if Int.tmod a C < 0 then Int.tdiv a C - 1 else Int.tdiv a C) = a / C := by
  refine ((Int.ediv_eq_iff_of_pos hC).2 ?_).symm
  have h := Int.tdiv_mul_add_tmod a C
  have h1 := Int.tmod_lt_of_pos a hC
  have h2 := Int.lt_tmod_of_pos a hC
  split
  · rw [Int.sub_mul, Int.one_mul]; omega
  · omega

theorem floor_unique {a C q q' : Int} (hC : 0 < C)
    (h1 : q * C ≤ a) (h2 : a < q * C + C) (h1' : q' * C ≤ a) (h2' : a < q' * C + C) : q = q' :=
  ((Int.ediv_eq_iff_of_pos hC).2 ⟨h1, h2⟩).symm.trans ((Int.ediv_eq_iff_of_pos hC).2 ⟨h1', h2'⟩)

theorem cycle_unique {E C a j k : Int} (hC : 0 < C) (h1 : E + j * C ≤ a) (h2 : a < E + (j * C + C))
    (h1' : E + k * C ≤ a) (h2' : a < E + (k * C + C)) : j = k :=
  floor_unique hC (Int.le_sub_left_of_add_le h1) (Int.sub_left_lt_of_lt_add h2)
    (Int.le_sub_left_of_add_le h1') (Int.sub_left_lt_of_lt_add h2')

theorem win_in_cycle (c : Cfg) (seed : Nat) (hw : 0 ≤ effW c) (ho : 0 ≤ offset c seed)
    (hf : offset c seed + effW c < c.C) (k : Int) :
    (effEpoch c + k * c.C ≤ winStart c seed k ∧ winStart c seed k < effEpoch c + (k * c.C + c.C)) ∧
    (effEpoch c + k * c.C ≤ winEnd c seed k ∧ winEnd c seed k < effEpoch c + (k * c.C + c.C)) := by
  unfold winEnd winStart
  omega

theorem win_idx_le {c : Cfg} {seed : Nat} {j k : Int} (hC : 0 < c.C)
    (h : winStart c seed j < winStart c seed k + c.C) : j ≤ k := by
  refine Int.le_of_lt_add_one (Int.lt_of_mul_lt_mul_right ?_ (Int.le_of_lt hC))
  unfold winStart at h
  rw [Int.add_mul, Int.one_mul]
  omega

theorem effW_bounds (c : Cfg) (hC : 0 < c.C) (hW : 0 ≤ c.W) : 0 ≤ effW c ∧ effW c < c.C := by
  unfold effW
  split
  · rw [Int.tdiv_eq_ediv_of_nonneg (Int.le_of_lt hC)]
    omega
  · omega

theorem offset_bounds (c : Cfg) (seed : Nat) (hC : 0 < c.C) (hC63 : c.C < 2^63) (hW : 0 ≤ c.W) :
    0 ≤ offset c seed ∧ offset c seed + effW c < c.C := by
  have ⟨hw0, hw1⟩ := effW_bounds c hC hW
  unfold offset
  rw [if_neg (by omega), Nat.mod_eq_of_lt (a := (c.C - effW c).toNat) (by omega)]
  have := Nat.mod_lt seed (y := (c.C - effW c).toNat) (by omega)
  omega

theorem wrap64_id {x : Int} (h1 : -(2^63) ≤ x) (h2 : x < 2^63) : wrap64 x = x := by
  unfold wrap64; omega

theorem sub_id {a b : Int} (h1 : -(2^63) ≤ a - b) (h2 : a - b < 2^63) : sub a b = a - b := by
  unfold sub minDur maxDur
  rw [if_neg (by omega), if_neg (by omega)]

theorem cycleStart_spec (c : Cfg) (t : Int) (hC : 0 < c.C)
    (hlo : -(2^63) + c.C ≤ t - effEpoch c) (hhi : t - effEpoch c < 2^63) :
    ∃ q : Int, cycleStart c t = effEpoch c + q * c.C ∧
      effEpoch c + q * c.C ≤ t ∧ t < effEpoch c + q * c.C + c.C := by
  have h1 := Int.ediv_mul_le (t - effEpoch c) (Int.ne_of_gt hC)
  have h2 := Int.lt_ediv_add_one_mul_self (t - effEpoch c) hC
  rw [Int.add_mul, Int.one_mul] at h2
  refine ⟨(t - effEpoch c) / c.C, ?_, ?_⟩
  · unfold cycleStart
    dsimp only
    -- the head-room of one cycle below keeps `q * C` inside int64
    rw [sub_id (Int.le_trans (Int.le_add_of_nonneg_right (Int.le_of_lt hC)) hlo) hhi, floor_eq_ediv _ hC,
      wrap64_id (Int.le_of_lt (Int.lt_of_add_lt_add_right (Int.lt_of_le_of_lt hlo h2)))
        (Int.lt_of_le_of_lt h1 hhi)]
  · omega

end MM.C33

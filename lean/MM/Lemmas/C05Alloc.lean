/-
  Allocation bounds for the codec combinators: `c.AllocBound A K` says that parsing `bs` requests
  at most `A·(bytes consumed) + K` bytes when it succeeds and at most `A·|bs| + K` in any case.
  Both halves are one inequality (`Codec.allocBound_iff`): `A` is charged for every byte given and
  refunded for every byte left unread, so the charges of consecutive parsers add up
  (`charge_trans`).  Compositions take the larger `A` and add up the constants `K` (one `make` from
  a 1-byte count each).

  `c.Lawful n A K` bundles all the laws of a codec (`Sound`, `DecWF`, `LenExact`, `MinLen n`,
  `AllocBound A K`).  `X_lawful` proves them for combinator `X` from those of its parts, so that a
  message codec gets a single proof term that mirrors its definition.
-/
import MM.Lemmas.C05Comb

namespace MM.C05

def Codec.AllocBound (c : Codec α) (A K : Nat) : Prop :=
  ∀ bs, (∀ a r, c.dec bs = some (a, r) → c.alloc bs + A * r.length ≤ A * bs.length + K) ∧
        c.alloc bs ≤ A * bs.length + K

/-- what a parse leaves unread; a failed parse leaves nothing to take credit for -/
def restLen : Option (α × Bytes) → Nat
  | some (_, r) => r.length
  | none => 0

theorem Codec.allocBound_iff {c : Codec α} {A K : Nat} :
    c.AllocBound A K ↔ ∀ bs, c.alloc bs + A * restLen (c.dec bs) ≤ A * bs.length + K := by
  refine forall_congr' fun bs => ?_
  rcases c.dec bs with _ | ⟨a, r⟩
  · exact ⟨fun h => h.2, fun h => ⟨nofun, h⟩⟩
  · exact ⟨fun h => h.1 a r rfl, fun h => ⟨fun a' r' e => by cases e; exact h,
      Nat.le_trans (Nat.le_add_right ..) h⟩⟩

/-- charges compose: what the first parser leaves unread (`r`) is what the second is given -/
theorem charge_trans {x y A n r r' K1 K2 : Nat} (h1 : x + A * r ≤ A * n + K1)
    (h2 : y + A * r' ≤ A * r + K2) : x + y + A * r' ≤ A * n + (K1 + K2) := by
  omega

/-- what is left (`r`) pays for the rest of the decoder (`y`), which refunds nothing -/
theorem charge_rest {x y C r N K : Nat} (h1 : x + C * r ≤ N) (h2 : y ≤ C * r + K) :
    x + y ≤ N + K := by
  omega

/-- two charges on the same parse add up -/
theorem charge_add {x y A B r n K1 K2 : Nat} (h1 : x + A * r ≤ A * n + K1)
    (h2 : y + B * r ≤ B * n + K2) : x + y + (A + B) * r ≤ (A + B) * n + (K1 + K2) := by
  rw [Nat.add_mul, Nat.add_mul]
  omega

theorem restLen_le {o : Option (α × Bytes)} {n : Nat} (h : ∀ a r, o = some (a, r) → r.length ≤ n) :
    restLen o ≤ n := by
  rcases o with _ | ⟨a, r⟩
  · exact Nat.zero_le _
  · exact h a r rfl

theorem Codec.AllocBound.mono {c : Codec α} {A A' K K' : Nat} (h : c.AllocBound A K) (hs : c.Shrinks)
    (hA : A ≤ A') (hK : K ≤ K') : c.AllocBound A' K' := by
  obtain ⟨d, rfl⟩ := Nat.exists_eq_add_of_le hA
  refine allocBound_iff.mpr fun bs => ?_
  have h1 := allocBound_iff.mp h bs
  have h2 := Nat.mul_le_mul_left d (restLen_le (hs bs))
  simp only [Nat.add_mul]
  omega

theorem zero_alloc {c : Codec α} (hz : ∀ bs, c.alloc bs = 0) : c.AllocBound 0 0 :=
  Codec.allocBound_iff.mpr fun bs => by rw [hz, Nat.zero_mul, Nat.zero_mul]; exact Nat.le_refl _

theorem bytesN_alloc (n : Nat) : (bytesN n).AllocBound 1 0 :=
  Codec.allocBound_iff.mpr fun bs => by
    simp only [bytesN]
    split
    · simp only [restLen, List.length_drop]
      omega
    · exact Nat.zero_le _   -- no parse: nothing allocated, nothing refunded

theorem lp_alloc (k : Nat) : (lp k).AllocBound 1 0 :=
  Codec.allocBound_iff.mpr fun bs => by
    simp only [lp, List.length_drop]
    split
    · split
      · simp only [restLen, List.length_drop]
        omega
      · exact Nat.zero_le _
    · exact Nat.zero_le _

theorem peek1_alloc : peek1.AllocBound 1 0 :=
  Codec.allocBound_iff.mpr fun bs => by
    cases bs with
    | nil => exact Nat.zero_le _
    | cons b t =>
      simp only [peek1]
      split
      · simp only [restLen, List.length_drop, List.length_cons]
        omega
      · exact Nat.zero_le _

theorem fwdPrefix_alloc : fwdPrefix.AllocBound 1 0 :=
  Codec.allocBound_iff.mpr fun bs => by
    cases bs with
    | nil => exact Nat.zero_le _
    | cons k t =>
      simp only [fwdPrefix]
      split
      · exact Nat.zero_le _
      · next tt r2 hd =>
        have := congrArg List.length hd
        split
        · simp only [restLen, List.length_drop, List.length_cons] at this ⊢
          omega
        · exact Nat.zero_le _

theorem dep_alloc {a : Codec τ} {f : τ → Codec β} {A Ka Kb : Nat} (ha : a.AllocBound A Ka)
    (hf : ∀ t, (f t).AllocBound A Kb) : (dep a f).AllocBound A (Ka + Kb) :=
  Codec.allocBound_iff.mpr fun bs => by
    have h1 := Codec.allocBound_iff.mp ha bs
    simp only [dep]
    rcases hd : a.dec bs with _ | ⟨x, r⟩ <;> simp only [hd] at h1 ⊢
    · exact charge_trans h1 (Nat.zero_le _)   -- `a` fails: the second charge is `0 ≤ Kb`
    · have h2 := Codec.allocBound_iff.mp (hf x) r
      rcases hy : (f x).dec r with _ | ⟨y, r'⟩ <;> simp only [hy] at h2 ⊢ <;> exact charge_trans h1 h2

theorem repAlloc_bound {c : Codec α} {A : Nat} (hc : c.AllocBound A 0) (n : Nat) (bs : Bytes) :
    repAlloc c n bs + A * restLen (repDec c n bs) ≤ A * bs.length := by
  induction n generalizing bs with
  | zero => exact Nat.le_of_eq (Nat.zero_add _)   -- no item: all of `bs` is left
  | succ n ih =>
    have h1 := Codec.allocBound_iff.mp hc bs
    rw [repAlloc, repDec]
    rcases hd : c.dec bs with _ | ⟨x, r⟩ <;> simp only [hd] at h1 ⊢
    · exact charge_trans (K2 := 0) h1 (Nat.zero_le _)
    · have h2 := ih r
      rcases hr : repDec c n r with _ | ⟨xs, r'⟩ <;> simp only [hr] at h2 ⊢ <;>
        exact charge_trans (K2 := 0) h1 h2

/-- list with a 1-byte count: one `make` of at most 255 elements, then items that only allocate
    what they consume -/
theorem listN1_alloc {c : Codec α} {A : Nat} (esz : Nat) (hc : c.AllocBound A 0) :
    (listN 1 c esz).AllocBound A (esz * 255) :=
  Codec.allocBound_iff.mpr fun bs => by
    simp only [listN]
    split
    · next hk =>
      have hcnt := unbe_lt (bs.take 1)
      rw [List.length_take_of_le hk] at hcnt
      rw [Nat.add_assoc, Nat.add_comm (A * _)]
      exact Nat.add_le_add (Nat.mul_le_mul_left esz (Nat.le_of_lt_succ hcnt))
        (Nat.le_trans (repAlloc_bound hc _ _)
          (Nat.mul_le_mul_left A (List.length_drop ▸ Nat.sub_le ..)))
    · exact Nat.zero_le _

theorem refine_alloc {c : Codec α} {A1 A2 K1 Kn : Nat} (p : α → Bool) (nested : α → Nat)
    (hc : c.AllocBound A1 K1) (hl : c.LenExact)
    (hn : ∀ x, nested x ≤ A2 * (c.enc x).length + Kn) :
    (refine c p nested).AllocBound (A1 + A2) (K1 + Kn) :=
  Codec.allocBound_iff.mpr fun bs => by
    have h1 := Codec.allocBound_iff.mp hc bs
    simp only [refine]
    rcases hd : c.dec bs with _ | ⟨x, r⟩ <;> simp only [hd] at h1 ⊢
    · exact charge_add h1 (Nat.zero_le _)
    · -- the nested decode is charged to the bytes of `x`; a failed check forgoes the refund
      have h2 : nested x + A2 * r.length ≤ A2 * bs.length + Kn := by
        rw [← hl bs x r hd, Nat.mul_add, Nat.add_right_comm]
        exact Nat.add_le_add_right (hn x) _
      refine Nat.le_trans (Nat.add_le_add_left (Nat.mul_le_mul_left _ (restLen_le ?_)) _)
        (charge_add h1 h2)
      intro a r' h
      split at h <;> cases h
      exact Nat.le_refl _

theorem preEnc_alloc {c : Codec α} {A K : Nat} (norm : α → α) (hc : c.AllocBound A K) :
    (preEnc c norm).AllocBound A K := hc

theorem decodeTopAlloc_le {c : Codec α} {A K : Nat} (hc : c.AllocBound A K) (minLen : Nat) (bs : Bytes) :
    decodeTopAlloc minLen c bs ≤ A * bs.length + K := by
  unfold decodeTopAlloc
  split
  · exact Nat.zero_le _
  · exact (hc bs).2

/-- an input shorter than the pre-check allocates nothing, so with a positive minimum length the
    constant `K` goes into the factor -/
theorem decodeTopAlloc_linear {c : Codec α} {A K : Nat} (hc : c.AllocBound A K) (minLen : Nat)
    (hm : 0 < minLen) {L : Nat} (hL : A + K / minLen + 1 ≤ L) (bs : Bytes) :
    decodeTopAlloc minLen c bs ≤ L * bs.length := by
  refine Nat.le_trans ?_ (Nat.mul_le_mul_right _ hL)
  unfold decodeTopAlloc
  split
  · exact Nat.zero_le _
  · next hlen =>
    have h1 := (hc bs).2
    have h2 : K < (K / minLen + 1) * minLen := Nat.lt_mul_of_div_lt (Nat.lt_succ_self _) hm
    have h3 : (K / minLen + 1) * minLen ≤ (K / minLen + 1) * bs.length :=
      Nat.mul_le_mul_left _ (Nat.le_of_not_lt hlen)
    rw [Nat.add_assoc, Nat.add_mul]
    omega

/-! ### all laws of a codec at once -/

structure Codec.Lawful (c : Codec α) (n A K : Nat) : Prop where
  sound : c.Sound
  decwf : c.DecWF
  lenExact : c.LenExact
  minLen : c.MinLen n
  alloc : c.AllocBound A K

theorem Codec.Lawful.shrinks {c : Codec α} {n A K : Nat} (h : c.Lawful n A K) : c.Shrinks :=
  h.lenExact.shrinks

/-- the three comparisons are one hypothesis, which a caller with literals closes by `by decide` -/
theorem Codec.Lawful.mono {c : Codec α} {n A K n' A' K' : Nat} (h : c.Lawful n A K)
    (hle : n' ≤ n ∧ A ≤ A' ∧ K ≤ K') : c.Lawful n' A' K' :=
  { h with
    minLen := fun a ha => Nat.le_trans hle.1 (h.minLen a ha)
    alloc := h.alloc.mono h.shrinks hle.2.1 hle.2.2 }

theorem Codec.Lawful.roundtrip {c : Codec α} {k A K : Nat} (hc : c.Lawful k A K) (m : α)
    (h : c.wf m = true) : decodeTop k c (c.enc m) = some m :=
  decodeTop_roundtrip hc.sound k m h (hc.minLen m h)

theorem Codec.Lawful.reencode {c : Codec α} {k A K : Nat} (hc : c.Lawful k A K) (bs : Bytes) (m : α)
    (h : decodeTop k c bs = some m) : decodeTop k c (c.enc m) = some m :=
  hc.roundtrip m (decodeTop_wf hc.decwf k bs m h)

theorem Codec.Exact.lawful {c : Codec α} {n A K : Nat} (h : c.Exact) (hm : c.MinLen n)
    (ha : c.AllocBound A K) : c.Lawful n A K where
  sound a rest hw := (h _ a rest).mpr ⟨hw, rfl⟩
  decwf bs a rest hd := ((h bs a rest).mp hd).1
  lenExact := h.lenExact
  minLen := hm
  alloc := ha

theorem be_lawful {k : Nat} : (be k).Lawful k 0 0 :=
  (be_exact k).lawful (fun n _ => Nat.le_of_eq (be_enc_length k n).symm) (zero_alloc fun _ => rfl)

theorem bool_lawful : bool.Lawful 1 0 0 where
  sound b rest _ := by cases b <;> rfl
  decwf _ _ _ _ := rfl
  lenExact bs a rest h := by
    cases bs with
    | nil => cases h
    | cons x r =>
      cases h
      exact Nat.add_comm ..
  minLen _ _ := Nat.le_refl 1
  alloc := zero_alloc fun _ => rfl

theorem bytesN_lawful {n : Nat} : (bytesN n).Lawful n 1 0 :=
  (bytesN_exact n).lawful (fun _ h => Nat.le_of_eq (bytesN_wf.mp h).symm) (bytesN_alloc n)

theorem lp_lawful {k : Nat} : (lp k).Lawful k 1 0 :=
  (lp_exact k).lawful (fun s _ => lp_enc_length k s ▸ Nat.le_add_right ..) (lp_alloc k)

theorem peek1_lawful : peek1.Lawful 1 1 0 :=
  peek1_exact.lawful (fun a h => by
    cases a with
    | nil => cases h
    | cons b t => exact Nat.le_add_left ..) peek1_alloc

theorem fwdPrefix_lawful : fwdPrefix.Lawful 0 1 0 :=
  fwdPrefix_exact.lawful (fun _ _ => Nat.zero_le _) fwdPrefix_alloc

theorem failC_lawful {n : Nat} : failC.Lawful n 0 0 :=
  failC_exact.lawful nofun (zero_alloc fun _ => rfl)

theorem dep_lawful {a : Codec τ} {f : τ → Codec β} {n m A B Ka Kb : Nat} (ha : a.Lawful n A Ka)
    (hf : ∀ t, (f t).Lawful m B Kb) : (dep a f).Lawful (n + m) (max A B) (Ka + Kb) where
  sound p rest h := by
    obtain ⟨h1, h2⟩ := dep_wf.mp h
    refine dep_dec_some.mpr ⟨(f p.1).enc p.2 ++ rest, ?_, (hf _).sound _ _ h2⟩
    rw [show (dep a f).enc p = a.enc p.1 ++ (f p.1).enc p.2 from rfl, List.append_assoc]
    exact ha.sound _ _ h1
  decwf bs p rest h := by
    obtain ⟨r, hx, hy⟩ := dep_dec_some.mp h
    exact dep_wf.mpr ⟨ha.decwf _ _ _ hx, (hf _).decwf _ _ _ hy⟩
  lenExact bs p rest h := by
    obtain ⟨r, hx, hy⟩ := dep_dec_some.mp h
    rw [dep_enc_length, Nat.add_assoc, (hf _).lenExact _ _ _ hy, ha.lenExact _ _ _ hx]
  minLen p h := by
    obtain ⟨h1, h2⟩ := dep_wf.mp h
    rw [dep_enc_length]
    exact Nat.add_le_add (ha.minLen _ h1) ((hf _).minLen _ h2)
  alloc := dep_alloc (ha.alloc.mono ha.shrinks (Nat.le_max_left A B) (Nat.le_refl _))
    fun t => (hf t).alloc.mono (hf t).shrinks (Nat.le_max_right A B) (Nat.le_refl _)

theorem seq_lawful {a : Codec α} {b : Codec β} {n m A B Ka Kb : Nat} (ha : a.Lawful n A Ka)
    (hb : b.Lawful m B Kb) : (seq a b).Lawful (n + m) (max A B) (Ka + Kb) :=
  seq_eq_dep a b ▸ dep_lawful ha fun _ => hb

theorem listN1_lawful {c : Codec α} {esz n A : Nat} (hc : c.Lawful n A 0) :
    (listN 1 c esz).Lawful 1 A (esz * 255) where
  sound l rest h := by
    obtain ⟨hl, hall⟩ := listN_wf.mp h
    refine listN_dec_some.mpr ⟨beN 1 l.length, encAll c l ++ rest, beN_length 1 _,
      List.append_assoc .., ?_⟩
    rw [unbe_beN_of_lt hl]
    exact repDec_sound hc.sound l rest hall
  decwf bs l rest h := by
    obtain ⟨pre, r, hp, rfl, hr⟩ := listN_dec_some.mp h
    obtain ⟨h1, h2, -⟩ := repDec_some hc.decwf hc.lenExact hr
    exact listN_wf.mpr ⟨h2 ▸ hp ▸ unbe_lt pre, h1⟩
  lenExact bs l rest h := by
    obtain ⟨pre, r, hp, rfl, hr⟩ := listN_dec_some.mp h
    rw [listN_enc_length, List.length_append, hp, Nat.add_assoc,
      (repDec_some hc.decwf hc.lenExact hr).2.2]
  minLen l _ := listN_enc_length 1 esz c l ▸ Nat.le_add_right ..
  alloc := listN1_alloc esz hc.alloc

theorem refine_lawful {c : Codec α} {p : α → Bool} {nested : α → Nat} {n A1 A2 K1 Kn : Nat}
    (hc : c.Lawful n A1 K1) (hn : ∀ x, nested x ≤ A2 * (c.enc x).length + Kn) :
    (refine c p nested).Lawful n (A1 + A2) (K1 + Kn) where
  sound a rest h :=
    refine_dec_some.mpr ⟨hc.sound a rest (refine_wf.mp h).1, (refine_wf.mp h).2⟩
  decwf _ _ _ h :=
    refine_wf.mpr ⟨hc.decwf _ _ _ (refine_dec_some.mp h).1, (refine_dec_some.mp h).2⟩
  lenExact bs a rest h := hc.lenExact bs a rest (refine_dec_some.mp h).1
  minLen a h := hc.minLen a (refine_wf.mp h).1
  alloc := refine_alloc p nested hc.alloc hc.lenExact hn

/-- a layout chosen by a type byte -/
theorem ite_lawful {p : Prop} [Decidable p] {a b : Codec α} {n A K : Nat} (ha : a.Lawful n A K)
    (hb : b.Lawful n A K) : (if p then a else b).Lawful n A K := by
  split <;> assumption

end MM.C05

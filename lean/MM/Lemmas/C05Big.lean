/-
  Lemmas for the two hand-written decoders of C05: QueuedState (length-prefixed blob lists,
  sleep/wake commands located by offset) and NodeInfo (strict head, optional tail).
-/
import MM.Lemmas.C05

namespace MM.C05

/-! ### QueuedState: blob lists and the two commands -/

theorem Codec.Lawful.blobList_sound {c : Codec α} {k A K : Nat} (hc : c.Lawful k A K) (l : List α)
    (rest : Bytes) (h : l.all (fun a => c.wf a && decide ((c.enc a).length < 65536)) = true) :
    blobList (decodeTop k c) l.length ((l.map fun a => (lp 2).enc (c.enc a)).flatten ++ rest) =
      some (l, rest) := by
  induction l with
  | nil => rfl
  | cons x xs ih =>
    obtain ⟨hx, hxs⟩ := Bool.and_eq_true_iff.mp h
    obtain ⟨hw, hl⟩ := Bool.and_eq_true_iff.mp hx
    simp only [List.map_cons, List.flatten_cons, List.length_cons, blobList, List.append_assoc,
      (lp_lawful (k := 2)).sound _ _ (lp_wf.mpr (of_decide_eq_true hl)), ih hxs, hc.roundtrip x hw]

theorem u16_dec_encBlobs {α : Type} (enc : α → Bytes) (l : List α) (rest : Bytes)
    (hl : l.length < 65536) : u16.dec (encBlobs enc l ++ rest) =
      some (l.length, (l.map fun a => (lp 2).enc (enc a)).flatten ++ rest) :=
  List.append_assoc .. ▸ be_lawful.sound l.length _ (be_wf.mpr hl)

theorem Codec.Lawful.blobList_wf {c : Codec α} {k A K : Nat} (hc : c.Lawful k A K) (n : Nat)
    (bs : Bytes) (l : List α) (rest : Bytes) (h : blobList (decodeTop k c) n bs = some (l, rest)) :
    l.all (fun a => c.wf a && decide ((c.enc a).length < 65536)) = true ∧ l.length ≤ n := by
  -- case1: `n = 0`; case4: the entry and the remaining `n` entries are read; the others return `none`
  fun_induction blobList (decodeTop k c) n bs generalizing l rest with
  | case4 n bs blob r hb l' r' hr ih =>
    cases h
    obtain ⟨h1, h2⟩ := ih _ _ hr
    -- the blob decodes and is kept, or is skipped
    split
    · next a hd =>
      have hlen := Nat.lt_of_le_of_lt (decodeTop_enc_le hc.lenExact k blob a hd)
        (lp_wf.mp (lp_lawful.decwf _ _ _ hb))
      rw [List.all_cons, h1, decodeTop_wf hc.decwf k blob a hd, decide_eq_true hlen]
      exact ⟨rfl, Nat.succ_le_succ h2⟩
    · exact ⟨h1, Nat.le_succ_of_le h2⟩
  | case1 => cases h; exact ⟨rfl, Nat.le_refl _⟩
  | _ => cases h

theorem blobList_shrinks {α : Type} (dec : Bytes → Option α) (n : Nat) (bs : Bytes) (l : List α)
    (rest : Bytes) (h : blobList dec n bs = some (l, rest)) : rest.length ≤ bs.length := by
  fun_induction blobList dec n bs generalizing l rest with
  | case4 n bs blob r hb l' r' hr ih =>
    cases h
    exact Nat.le_trans (ih _ _ hr) (lp_lawful.shrinks _ _ _ hb)
  | case1 => cases h; exact Nat.le_refl _
  | _ => cases h

theorem encOptCmd_pos (o : Option Cmd) : 0 < (encOptCmd o).length := by
  cases o <;> exact Nat.succ_pos _

theorem cmd_enc_length (c : Cmd) (h : sleepC.wf c = true) :
    (sleepC.enc c).length = 97 + 16 * c.2.2.2.2.length := by
  simp only [sleepC, seq_wf, bytesN_wf] at h
  obtain ⟨ho, -, -, hs, hsb⟩ := h
  simp only [sleepC, seq_enc_length, bytesN_enc, be_enc_length, ids_enc_length hsb, ho, hs,
    ← Nat.add_assoc]

/-! ### allocation of `DecodeQueuedState` -/

/-- `L + 1`: every blob is copied (`readBytes`) before its nested decoder runs -/
theorem blobAlloc_bound {α : Type} (dec : Bytes → Option α) (top : Bytes → Nat) (L : Nat)
    (hL : ∀ blob, top blob ≤ L * blob.length) (n : Nat) (bs : Bytes) :
    blobAlloc top n bs + (L + 1) * restLen (blobList dec n bs) ≤ (L + 1) * bs.length := by
  fun_induction blobAlloc top n bs with
  | case1 => exact Nat.le_of_eq (Nat.zero_add _)   -- no entry: all of `bs` is left
  | case2 n bs hd =>
    rw [blobList, hd]
    exact Nat.zero_le _
  | case3 n bs blob r1 hd ih =>
    rw [blobList, hd]
    have h1 : blob.length + top blob + (L + 1) * r1.length ≤ (L + 1) * bs.length := by
      have hT := hL blob
      rw [← lp_lawful.lenExact _ _ _ hd, lp_enc_length, Nat.mul_add, Nat.mul_add,
        Nat.add_one_mul L blob.length]
      omega
    rcases hr : blobList dec n r1 with _ | ⟨l, r'⟩ <;> simp only [hr] at ih ⊢ <;>
      exact charge_trans (K1 := 0) (K2 := 0) h1 ih

/-- One counted blob list of `DecodeQueuedState` read from `bs`: the capped reservation (`s` bytes
    per element, at most `h` per input byte) and the blobs cost `C + h` per byte of `bs`, less `C`
    per byte that the list leaves for the rest of the decoder. -/
theorem stage_alloc_le {α : Type} (dec : Bytes → Option α) {top : Bytes → Nat} {L : Nat}
    (hL : ∀ blob, top blob ≤ L * blob.length) {s h C : Nat} (hs : s ≤ 2 * h)
    (hC : L + 1 ≤ C) {bs r : Bytes} {n : Nat} (h0 : u16.dec bs = some (n, r)) :
    s * min n (r.length / 2) + blobAlloc top n r + C * restLen (blobList dec n r) ≤
      (C + h) * bs.length := by
  have hr := be_lawful.shrinks _ _ _ h0
  have h1 : s * min n (r.length / 2) ≤ h * bs.length :=
    Nat.le_trans (Nat.mul_le_mul hs (Nat.min_le_right ..)) (by
      rw [Nat.mul_right_comm, Nat.mul_comm h]
      exact Nat.mul_le_mul_right h (Nat.le_trans (Nat.mul_div_le ..) hr))
  have hB := blobAlloc_bound dec top L hL n r
  obtain ⟨d, rfl⟩ := Nat.exists_eq_add_of_le hC
  have h2 := Nat.mul_le_mul_left (L + 1) hr
  have h3 := Nat.mul_le_mul_left d (restLen_le fun l r' hb =>
    Nat.le_trans (blobList_shrinks dec n _ _ _ hb) hr)
  rw [Nat.add_mul _ h, Nat.add_mul _ d, Nat.add_mul _ d]
  omega

/-! ### NodeInfo: optional tail -/

theorem str_enc_ne_nil (s rest : Bytes) : (str.enc s ++ rest).isEmpty = false := rfl

theorem flLoop_sound (l : List (Bytes × Bytes)) (rest : Bytes) (h : l.all flC.wf = true) :
    flLoop l.length (encAll flC l ++ rest) = (l, rest, false) := by
  induction l with
  | nil => rfl
  | cons x xs ih =>
    obtain ⟨hx, hxs⟩ := Bool.and_eq_true_iff.mp h
    obtain ⟨h1, h2⟩ := seq_wf.mp hx
    simp only [encAll_cons, flC, seq_enc, List.append_assoc, List.length_cons, flLoop, str_enc_ne_nil,
      lp_lawful.sound _ _ h1, lp_lawful.sound _ _ h2, Bool.false_eq_true, if_false]
    rw [← flC, ih hxs]

theorem shLoop_sound (l : List Bytes) (rest : Bytes) (h : l.all str.wf = true) :
    shLoop l.length (encAll str l ++ rest) = (l, rest, false) := by
  induction l with
  | nil => rfl
  | cons x xs ih =>
    obtain ⟨hx, hxs⟩ := Bool.and_eq_true_iff.mp h
    simp only [encAll_cons, List.append_assoc, List.length_cons, shLoop, str_enc_ne_nil,
      lp_lawful.sound _ _ hx, Bool.false_eq_true, if_false, ih hxs]

theorem optBool_enc (b : Bool) (rest : Bytes) : optBool (bool.enc b ++ rest) = (b, rest) := by
  cases b <;> rfl

theorem beN1 {k : Nat} (h : k < 256) : beN 1 k = [UInt8.ofNat k] := by
  simp [beN, leN, Nat.mod_eq_of_lt h]

theorem flLoop_wf {n : Nat} {bs : Bytes} {l : List (Bytes × Bytes)} {r : Bytes} {f : Bool}
    (h : flLoop n bs = (l, r, f)) : l.length ≤ n ∧ l.all flC.wf = true := by
  -- case6: key and address parse and the loop goes on; every other branch returns `[]`
  fun_induction flLoop n bs generalizing l r f with
  | case6 n bs _ key r1 hk _ addr r' ha l' r'' f' hl ih =>
    cases h
    have hw : flC.wf (key, addr) = true :=
      seq_wf.mpr ⟨lp_lawful.decwf _ _ _ hk, lp_lawful.decwf _ _ _ ha⟩
    exact ⟨Nat.succ_le_succ (ih hl).1, by rw [List.all_cons, (ih hl).2, hw]; rfl⟩
  | _ => cases h; exact ⟨Nat.zero_le _, rfl⟩

theorem shLoop_wf {n : Nat} {bs : Bytes} {l : List Bytes} {r : Bytes} {f : Bool}
    (h : shLoop n bs = (l, r, f)) : l.length ≤ n ∧ l.all str.wf = true := by
  -- case4: the string parses and the loop goes on; every other branch returns `[]`
  fun_induction shLoop n bs generalizing l r f with
  | case4 n bs _ s r1 hs l' r' f' hl ih =>
    cases h
    exact ⟨Nat.succ_le_succ (ih hl).1, by rw [List.all_cons, (ih hl).2, lp_lawful.decwf _ _ _ hs]; rfl⟩
  | _ => cases h; exact ⟨Nat.zero_le _, rfl⟩

end MM.C05

import MM.Model.C26
import MM.Lemmas.C27

/-!
  `op*_touched`: where a path in an operation's `touched` list comes from — what `stat` / `lstat` of
  the cleaned request path found, another name of that file (`aliases`), an entry `mkdirAll`
  created (`changedKeys`), or what `removeAll` removed (`removeAll_gone`).  On a `Clear` path
  without ".." what `stat` / `lstat` find is the path itself (`walk_found`, `lstat_found_clear`).
  `runOp_cases`: a request is refused with nothing touched, or is its `dispatch`.
-/
namespace MM.C26
open MM.C27

theorem splitOn_ne_nil (sep : UInt8) (l : Bytes) : splitOn sep l ≠ [] := by
  fun_cases splitOn sep l <;> simp

theorem splitOn_append (sep : UInt8) (a b : Bytes) :
    splitOn sep (a ++ sep :: b) = splitOn sep a ++ splitOn sep b := by
  induction a with
  | nil => simp [splitOn]
  | cons c cs ih =>
    rw [List.cons_append, splitOn, splitOn, ih]
    split
    · rfl
    · cases hs : splitOn sep cs with
      | nil => exact absurd hs (splitOn_ne_nil sep cs)
      | cons s ss => rfl

def ancestor : Nat → Bytes → Bytes
  | 0, d => d
  | k + 1, d => ancestor k (dirOf d)

theorem parentWalk_spec (pat : Bytes) (fuel : Nat) (dir : Bytes) (h : parentWalk pat fuel dir = true) :
    ∃ k, matchOK pat (ancestor k dir) = true := by
  fun_induction parentWalk pat fuel dir with
  | case1 => cases h
  | case2 => cases h
  | case3 fuel dir _ ih =>
    rcases (Bool.or_eq_true _ _).mp h with h | h
    · exact ⟨0, h⟩
    · obtain ⟨k, hk⟩ := ih h
      exact ⟨k + 1, hk⟩

theorem touched_ite {q : Path} {c : Prop} [Decidable c] {a b : Result}
    (h : q ∈ (if c then a else b).touched) : c ∧ q ∈ a.touched ∨ ¬ c ∧ q ∈ b.touched := by
  split at h
  · exact .inl ⟨‹_›, h⟩
  · exact .inr ⟨‹_›, h⟩

theorem opDownload_touched {x : Ctx} {nfc : Bytes → Bytes} {fu : Nat} {c : Cfg} {fs : FS} {path : Bytes} {q : Path}
    (hq : q ∈ (opDownload x nfc fu c fs path).touched) :
    ∃ k, stat fs fu (compsOf (clean path)) = .found q k := by
  revert hq
  -- every way out but the third is a `failR`: the link check, the size limit, (the file is read,) the
  -- cleaned path not found, the path as sent not found
  fun_cases opDownload x nfc fu c fs path <;> intro hq
  · cases hq
  · cases hq
  · cases List.mem_singleton.mp hq
    exact ⟨_, ‹_›⟩
  · cases hq
  · cases hq

theorem opList_touched {fu : Nat} {fs : FS} {path : Bytes} {q : Path}
    (hq : q ∈ (opList fu fs path).touched) :
    ∃ k, stat fs fu (compsOf (clean path)) = .found q k := by
  unfold opList at hq
  split at hq
  · cases List.mem_singleton.mp hq
    exact ⟨_, ‹_›⟩
  · cases hq
  · cases hq

theorem opStat_touched {fu : Nat} {fs : FS} {path : Bytes} {q : Path}
    (hq : q ∈ (opStat fu fs path).touched) :
    (∃ k, stat fs fu (compsOf (clean path)) = .found q k) ∨ (∃ k, lstat fs fu (compsOf (clean path)) = .found q k) := by
  revert hq
  -- a link whose target exists; a link whose target does not; anything else; nothing
  fun_cases opStat fu fs path <;> intro hq
  · rename_i hl _ _ hs
    simp only [List.mem_cons, List.not_mem_nil, or_false] at hq
    rcases hq with rfl | rfl
    · exact .inr ⟨_, hl⟩
    · exact .inl ⟨_, hs⟩
  · rename_i hl _
    cases List.mem_singleton.mp hq
    exact .inr ⟨_, hl⟩
  · rename_i hl
    cases List.mem_singleton.mp hq
    exact .inr ⟨_, hl⟩
  · cases hq

theorem opChmod_touched {fu : Nat} {fs : FS} {path : Bytes} {q : Path}
    (hq : q ∈ (opChmod fu fs path).touched) :
    ∃ q0 k, stat fs fu (compsOf (clean path)) = .found q0 k ∧ q ∈ aliases fs q0 := by
  unfold opChmod at hq
  split at hq
  · exact ⟨_, _, ‹_›, hq⟩
  · cases hq

theorem opDelete_touched {fu : Nat} {fs : FS} {path : Bytes} {r : Bool} {q : Path}
    (hq : q ∈ (opDelete fu fs path r).touched) :
    ∃ q0 k, lstat fs fu (compsOf (clean path)) = .found q0 k ∧ ((∀ t, k ≠ .sym t) →
      q = q0 ∨ r = true ∧ q ∈ (removeAll fs fu (compsOf (clean path))).2) := by
  unfold opDelete at hq
  dsimp only at hq
  split at hq
  · rename_i q0 k hl
    refine ⟨q0, k, hl, fun hk => ?_⟩
    -- the three ways out in turn: not empty (`listed` only), recursive (`listed ++ gone`), plain
    -- remove (`listed`, or `listed ++ [q0]`); `listed` is `[q0]` for a directory, `[]` for a file
    cases k with
    | sym t => exact absurd rfl (hk t)
    | dir =>
      rcases touched_ite hq with ⟨-, h⟩ | ⟨-, h⟩
      · exact .inl (List.mem_singleton.mp h)
      rcases touched_ite h with ⟨hr, h⟩ | ⟨-, h⟩
      · rcases List.mem_append.mp h with h | h
        · exact .inl (List.mem_singleton.mp h)
        · exact .inr ⟨(Bool.and_true r).symm.trans hr, h⟩
      rcases touched_ite h with ⟨-, h⟩ | ⟨-, h⟩
      · exact .inl (List.mem_singleton.mp h)
      · exact .inl ((List.mem_append.mp h).elim List.mem_singleton.mp List.mem_singleton.mp)
    | file i =>
      rcases touched_ite hq with ⟨-, h⟩ | ⟨-, h⟩
      · cases h
      rcases touched_ite h with ⟨hr, -⟩ | ⟨-, h⟩
      · cases (Bool.and_false r).symm.trans hr
      rcases touched_ite h with ⟨-, h⟩ | ⟨-, h⟩
      · cases h
      · exact .inl (List.mem_singleton.mp h)
  · cases hq

theorem changedKeys_mem {fs fs1 : FS} {q : Path} (h : q ∈ changedKeys fs fs1) : fs1.lookup q ≠ fs.lookup q := by
  unfold changedKeys at h
  obtain ⟨e, he, rfl⟩ := List.mem_map.mp h
  simpa using (List.mem_filter.mp he).2

theorem opUpload_touched {x : Ctx} {fu : Nat} {c : Cfg} {fs : FS} {path : Bytes} {content : Nat} {q : Path}
    (hq : q ∈ (opUpload x fu c fs path content).touched) :
    let p := compsOf (clean path)
    let fs1 := (mkdirAll fs fu p.dropLast).1
    q ∈ changedKeys fs fs1 ∨ (∃ q0 i, stat fs1 fu p = .found q0 (.file i) ∧ q ∈ aliases fs1 q0) ∨
      ∃ par n, stat fs1 fu p = .missing par n ∧ q = par ++ [n] := by
  revert hq
  -- refused for its declared size; the parent cannot be made; an existing file; a new file; neither
  fun_cases opUpload x fu c fs path content <;> intro hq <;> dsimp only
  · cases hq
  · rename_i e; rw [e]; exact .inl hq
  · rename_i e q0 i hs
    rw [e]
    exact (List.mem_append.mp hq).imp_right fun h => .inl ⟨_, _, hs, h⟩
  · rename_i e par n hs
    rw [e]
    exact (List.mem_append.mp hq).imp_right fun h => .inr ⟨_, _, hs, List.mem_singleton.mp h⟩
  · rename_i e _ _; rw [e]; exact .inl hq

theorem removeAll_gone {fs : FS} {fu : Nat} {P q q0 : Path} {k : Kind}
    (hl : lstat fs fu P = .found q0 k) (hq : q ∈ (removeAll fs fu P).2) : q0 <+: q := by
  unfold removeAll at hq
  rw [hl] at hq
  cases k with
  | dir =>
    simp only at hq
    split at hq
    · cases hq
    · obtain ⟨e, he, rfl⟩ := List.mem_map.mp hq
      exact List.isPrefixOf_iff_prefix.mp (List.mem_filter.mp he).2
  | file i | sym t => exact List.mem_singleton.mp hq ▸ List.prefix_refl _

theorem runOp_cases (x : Ctx) (nfc : Bytes → Bytes) (fu : Nat) (c : Cfg) (fs : FS) (op : Op) (path : Bytes) :
    (∃ e, runOp x nfc fu c fs op path = failR fs e) ∨
    (authenticate x c = none ∧ validatePath nfc c path = .ok ∧
      runOp x nfc fu c fs op path = dispatch x nfc fu c fs op path) := by
  -- disabled; not authenticated; no path; validated; not validated
  fun_cases runOp x nfc fu c fs op path
  · exact .inl ⟨_, rfl⟩
  · exact .inl ⟨_, rfl⟩
  · exact .inl ⟨_, rfl⟩
  · exact .inr ⟨‹_›, ‹_›, rfl⟩
  · exact .inl ⟨_, rfl⟩

theorem runOp_touched {x : Ctx} {nfc : Bytes → Bytes} {fu : Nat} {c : Cfg} {fs : FS} {op : Op} {path : Bytes}
    {q : Path} (hq : q ∈ (runOp x nfc fu c fs op path).touched) :
    q ∈ (dispatch x nfc fu c fs op path).touched := by
  rcases runOp_cases x nfc fu c fs op path with ⟨e, he⟩ | ⟨-, -, hd⟩
  · rw [he] at hq; cases hq
  · exact hd ▸ hq

end MM.C26

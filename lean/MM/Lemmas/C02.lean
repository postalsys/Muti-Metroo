import MM.Model.C02
import MM.Lemmas.C01

namespace MM.C02
open MM.C01

structure Inv (st : St) : Prop where
  iInit : st.i.isInit = true
  rInit : st.r.isInit = false
  iSend : st.i.send < W
  rSend : st.r.send < W
  shape : ∀ n ∈ st.nonces, n.pfx = sendPfx n.byInit ∧
            n.ctr < (if n.byInit then st.i.send else st.r.send)
  distinct : st.nonces.Pairwise (fun a b => a.wire ≠ b.wire)

theorem sendPfx_inj : ∀ {a b : Bool}, sendPfx a = sendPfx b → a = b := by decide

theorem inv_start {a b : Nat} (ha : a < W) (hb : b < W) : Inv (start a b) :=
  ⟨rfl, rfl, ha, hb, nofun, .nil⟩

/-- What the two `Encrypt` steps share: a nonce `x` of the right shape whose counter lies between
    its end's bound before and after the step can be added. -/
theorem cons_fresh {ns : List Nonce} {si sr si' sr' : Nat} (x : Nonce)
    (shape : ∀ n ∈ ns, n.pfx = sendPfx n.byInit ∧ n.ctr < (if n.byInit then si else sr))
    (distinct : ns.Pairwise (fun a b => a.wire ≠ b.wire))
    (hi : si ≤ si') (hr : sr ≤ sr') (hp : x.pfx = sendPfx x.byInit)
    (hge : (if x.byInit then si else sr) ≤ x.ctr) (hlt : x.ctr < (if x.byInit then si' else sr')) :
    (∀ n ∈ x :: ns, n.pfx = sendPfx n.byInit ∧ n.ctr < (if n.byInit then si' else sr')) ∧
    (x :: ns).Pairwise (fun a b => a.wire ≠ b.wire) := by
  constructor
  · refine List.forall_mem_cons.mpr ⟨⟨hp, hlt⟩, fun n hn =>
      ⟨(shape n hn).1, Nat.lt_of_lt_of_le (shape n hn).2 ?_⟩⟩
    cases n.byInit
    · exact hr
    · exact hi
  · -- equal wire nonces have equal prefixes, so both are of the same end, and the earlier counter
    -- is below that end's bound before the step
    refine .cons (fun n hn hw => ?_) distinct
    injection hw with hpfx hctr
    obtain ⟨h1, h2⟩ := shape n hn
    rw [← sendPfx_inj (hp.symm.trans (hpfx.trans h1)), ← hctr] at h2
    exact Nat.lt_irrefl _ (Nat.lt_of_lt_of_le h2 hge)

theorem inv_step {st : St} (inv : Inv st) (l : Label) : Inv (step st l) := by
  fun_cases step st l
  case case1 he =>
    obtain ⟨hlt, rfl, rfl⟩ := encrypt_some inv.iSend he
    have h := cons_fresh ⟨true, _, _⟩ inv.shape inv.distinct (Nat.le_succ _) (Nat.le_refl _)
      (congrArg sendPfx inv.iInit) (Nat.le_refl _) (Nat.lt_succ_self _)
    exact { inv with iSend := hlt, shape := h.1, distinct := h.2 }
  case case3 he =>
    obtain ⟨hlt, rfl, rfl⟩ := encrypt_some inv.rSend he
    have h := cons_fresh ⟨false, _, _⟩ inv.shape inv.distinct (Nat.le_refl _) (Nat.le_succ _)
      (congrArg sendPfx inv.rInit) (Nat.le_refl _) (Nat.lt_succ_self _)
    exact { inv with rSend := hlt, shape := h.1, distinct := h.2 }
  case case2 he | case4 he => rw [encrypt_none he]; exact inv

theorem inv_run {st : St} (inv : Inv st) (ls : List Label) : Inv (run st ls) := by
  induction ls generalizing st with
  | nil => exact inv
  | cons l rest ih => exact ih (inv_step inv l)

end MM.C02

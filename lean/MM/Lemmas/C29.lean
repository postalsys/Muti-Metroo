/-
  Helper lemmas for C29: cache facts (mark / expire), and the protection invariant used by
  C29_partial.
-/
import MM.Model.C29
import MM.Lemmas.C28
namespace MM.C29
open MM.C28

def held (l : List Seen) (o i : Nat) (t1 : Int) : Prop := ∃ e ∈ l, keyEq e o i = true ∧ e.seenAt ≥ t1

theorem hasKey_false_not_held {l : List Seen} {o i : Nat} {t1 : Int} (h : hasKey l o i = false) : ¬ held l o i t1 := by
  intro ⟨e, he, hk, _⟩
  unfold hasKey at h
  rw [List.any_eq_false] at h
  exact h e he hk

theorem mark_fst_new {l : List Seen} {now : Int} {o i f : Nat} (h : (mark l now o i f).2 = true) :
    hasKey l o i = false ∧ (mark l now o i f).1 = { origin := o, id := i, seenAt := now, seenFrom := f } :: l := by
  unfold mark at *
  by_cases hk : hasKey l o i = true
  · rw [if_pos hk] at h; simp at h
  · rw [if_neg hk]; simp at hk; exact ⟨hk, rfl⟩

theorem mark_held {l : List Seen} {now : Int} {o i f o' i' : Nat} {t1 : Int}
    (h : held l o' i' t1) (ht : t1 ≤ now) : held (mark l now o i f).1 o' i' t1 := by
  obtain ⟨e, he, hk, hs⟩ := h
  unfold mark
  split
  · refine ⟨_, List.mem_map_of_mem he, ?_⟩
    split
    · exact ⟨hk, ht⟩
    · exact ⟨hk, hs⟩
  · exact ⟨e, List.mem_cons_of_mem _ he, hk, hs⟩

theorem expire_held {l : List Seen} {now ttl : Int} {o i : Nat} {t1 : Int}
    (h : held l o i t1) : held (expire l now ttl) o i t1 ∨ now > t1 + ttl := by
  obtain ⟨e, he, hk, hs⟩ := h
  by_cases hx : now - e.seenAt > ttl
  · exact Or.inr (by omega)
  · exact Or.inl ⟨e, List.mem_filter.mpr ⟨he, by simp [hx]⟩, hk, hs⟩

theorem handle_held (V : Verifier) (cfg : FCfg) (st : FState) (now : Int) (k : Kind) (from_ : Nat) (c : Cmd)
    {o i : Nat} {t1 : Int} (h : held st.seen o i t1) (ht : t1 ≤ now) :
    held (handle V cfg st now k from_ c).1.seen o i t1 := by
  rcases handle_cases V cfg st now k from_ c with ⟨_, e | e⟩ | ⟨_, _, _, e, _⟩ <;> rw [e]
  · exact h
  all_goals exact mark_held h ht

theorem sleepTtl_ge (cfg : FCfg) : sleepTtl cfg ≥ 2 * cfg.window := by
  unfold sleepTtl
  omega

theorem onPeerConnected_seen (V : Verifier) (cfg : FCfg) (st : FState) (now : Int) (p : Nat) :
    (onPeerConnected V cfg st now p).1.seen = st.seen := by
  fun_cases onPeerConnected V cfg st now p <;> rfl

theorem accepts_cons (V : Verifier) (cfg : FCfg) (target : Cmd) (s : HState) (e : Ev) (es : List Ev) :
    accepts V cfg target s (e :: es) = accepts V cfg target (stepEv V cfg s e).1 es ∨
    ∃ k from_ c, e = .deliver k from_ c ∧ (handle V cfg s.f s.now k from_ c).2.1 = true ∧
      sameCmd c target = true ∧
      accepts V cfg target s (e :: es) = 1 + accepts V cfg target (stepEv V cfg s e).1 es := by
  cases e with
  | deliver k from_ c =>
    cases hacc : (handle V cfg s.f s.now k from_ c).2.1 with
    | false => exact Or.inl (by simp [accepts, stepEv, hacc])
    | true =>
      cases hsame : sameCmd c target with
      | false => exact Or.inl (by simp [accepts, stepEv, hacc, hsame])
      | true => exact Or.inr ⟨k, from_, c, rfl, hacc, hsame, by simp [accepts, stepEv, hacc, hsame]⟩
  | advance | cleanup | peer => exact Or.inl (Nat.zero_add _)

/-- The instant a command's timestamp denotes, in ns. -/
def tgtT (target : Cmd) : Int := cmdSec target.ts * 1000000000

/-- `target` can no longer be accepted: its validity window has opened, and its key is still in the cache
    with a `SeenAt` from inside the window, or the window is over. -/
def Protected (cfg : FCfg) (target : Cmd) (s : HState) : Prop :=
  tgtT target - cfg.window ≤ s.now ∧
    (held s.f.seen target.origin target.id (tgtT target - cfg.window) ∨ s.now > tgtT target + cfg.window)

theorem accepted_target {V : Verifier} {cfg : FCfg} {st : FState} {now : Int} {k : Kind} {from_ : Nat} {c target : Cmd}
    (hk : cfg.signing = true) (hw : cfg.window < 2^63 - 1)
    (hacc : (handle V cfg st now k from_ c).2.1 = true) (hsame : sameCmd c target = true) :
    hasKey st.seen target.origin target.id = false ∧
    (handle V cfg st now k from_ c).1.seen = ⟨target.origin, target.id, now, from_⟩ :: st.seen ∧
    tgtT target - cfg.window ≤ now ∧ now ≤ tgtT target + cfg.window := by
  obtain ⟨ho, hi, hts, _⟩ :
      c.origin = target.origin ∧ c.id = target.id ∧ c.ts = target.ts ∧ c.sig = target.sig := by
    simpa [sameCmd, and_assoc] using hsame
  rcases handle_cases V cfg st now k from_ c with ⟨hrej, _⟩ | ⟨_, hver, hn, hseen, _⟩
  · rw [hrej] at hacc; cases hacc
  obtain ⟨_, _, hlo, hhi⟩ := verify_sound V cfg now c hk hw hver
  have hnew := mark_fst_new hn
  rw [ho, hi] at hnew hseen
  refine ⟨hnew.1, hseen.trans hnew.2, ?_⟩
  unfold tgtT
  rw [← hts]
  omega

theorem accept_protects (V : Verifier) (cfg : FCfg) (target : Cmd) (s : HState) (k : Kind) (from_ : Nat) (c : Cmd)
    (hk : cfg.signing = true) (hw : cfg.window < 2^63 - 1)
    (hacc : (handle V cfg s.f s.now k from_ c).2.1 = true) (hsame : sameCmd c target = true) :
    Protected cfg target (stepEv V cfg s (.deliver k from_ c)).1 := by
  obtain ⟨_, hseen, hlo, _⟩ := accepted_target hk hw hacc hsame
  refine ⟨hlo, Or.inl ?_⟩
  show held (handle V cfg s.f s.now k from_ c).1.seen _ _ _
  rw [hseen]
  exact ⟨_, List.mem_cons_self, by simp [keyEq], hlo⟩

theorem stepEv_now_le (V : Verifier) (cfg : FCfg) (s : HState) (e : Ev) : s.now ≤ (stepEv V cfg s e).1.now := by
  cases e with
  | advance d => exact Int.le_add_of_nonneg_right (Int.natCast_nonneg d)
  | deliver | cleanup | peer => exact Int.le_refl _

theorem cleanup_fit {cfg : FCfg} {l : List Seen} {now : Int} (vs : List (Nat × Nat))
    (h : (expire l now (sleepTtl cfg)).length ≤ cfg.maxSize) :
    cleanup cfg l now vs = expire l now (sleepTtl cfg) :=
  if_pos (Nat.sub_eq_zero_of_le h)

end MM.C29

/-
  Helper lemmas for C10: lists whose image under a map has no duplicates (the slots of a slice),
  and what the filtering operations do to the list of all stored routes.
-/
import MM.Lemmas.C08

set_option linter.unusedSectionVars false

namespace MM.C08

theorem inj_of_nodup_map {α β : Type} {f : α → β} {l : List α} (h : (l.map f).Nodup)
    {x y : α} (hx : x ∈ l) (hy : y ∈ l) (e : f x = f y) : x = y :=
  have hp := List.pairwise_map.mp h
  List.Pairwise.forall_of_forall_of_flip (R := fun a b => f a = f b → a = b) (fun _ _ _ => rfl)
    (hp.imp fun hne e => absurd e hne) (hp.imp fun hne e => absurd e.symm hne) hx hy e

theorem nodup_of_nodup_map {α β : Type} {f : α → β} {l : List α} (h : (l.map f).Nodup) : l.Nodup :=
  (List.pairwise_map.mp h).imp fun hne e => hne (congrArg f e)

section generic
variable {K P : Type} [DecidableEq K]

theorem routes_filterT (keep : Entry P → Bool) (t : KTable K P) :
    routes (filterT keep t) = (routes t).filter keep :=
  calc routes (filterT keep t)
      = ((t.map fun kg => kg.2.filter keep).filter (!·.isEmpty)).flatten := by
        simp only [routes, filterT, List.flatMap_def, List.filter_map, List.map_map]; rfl
    _ = (t.map fun kg => kg.2.filter keep).flatten := List.flatten_filter_not_isEmpty
    _ = (routes t).filter keep := by unfold routes; rw [List.filter_flatMap, List.flatMap_def]

end generic
end MM.C08

/-
  Helper lemmas for C06: classification undoes route construction, the splitting loop keeps
  every route exactly once in groups that fit the wire format, encoded sizes.
-/
import MM.Model.C06
import MM.Lemmas.C05

namespace MM.C06
open MM.C05

/-! ### classify ∘ toRoute -/

theorem decodeLenPrefixed_lenPrefixed (s : Bytes) (h : s.length < 256) :
    decodeLenPrefixed (lenPrefixed s) = s := by
  simp [lenPrefixed, decodeLenPrefixed, UInt8.toNat_ofNat_of_lt h]

theorem decodeKeyTarget_enc (k t : Bytes) (hk : k.length < 256) (ht : t.length < 256) :
    decodeKeyTarget (lenPrefixed k ++ lenPrefixed t) = (k, t) := by
  simp only [lenPrefixed.eq_1 k, List.cons_append, decodeKeyTarget, UInt8.toNat_ofNat_of_lt hk]
  rw [if_neg (by simp), List.take_left' rfl, List.drop_left' rfl, decodeLenPrefixed_lenPrefixed t ht]

theorem fitTo_self (n : Nat) (p : Bytes) (h : p.length = n) : fitTo n p = p := by
  unfold fitTo; subst h; simp

theorem entryWF_iff (e : Entry) : entryWF e = true ↔ match e with
    | .cidr fam plen ip m =>
      (fam = 1 ∧ ip.length = 4 ∧ plen ≤ 32 ∨ fam = 2 ∧ ip.length = 16 ∧ plen ≤ 128) ∧ m < 65536
    | .domain p _ m => 0 < p.length ∧ p.length < 256 ∧ m < 65536
    | .forward k t m => 0 < k.length ∧ k.length < 256 ∧ t.length < 256 ∧ m < 65536
    | .agent id m => id.length = 16 ∧ id ≠ zeroID ∧ m < 65536 := by
  cases e <;> simp [entryWF, and_assoc]

theorem classify_toRoute (e : Entry) (h : entryWF e = true) : classify (toRoute e) = some e := by
  have h := (entryWF_iff e).mp h
  have hne : ∀ l : Bytes, 0 < l.length → l.isEmpty = false :=
    fun l hl => List.isEmpty_eq_false_iff.mpr (List.length_pos_iff.mp hl)
  cases e with
  | cidr fam plen ip m =>
    rcases h.1 with ⟨rfl, hl, -⟩ | ⟨rfl, hl, -⟩
    · simp [classify, toRoute, hne ip (by omega), fitTo_self 4 ip hl]
    · simp [classify, toRoute, hne ip (by omega), fitTo_self 16 ip hl]
  | domain p w m =>
    obtain ⟨h0, hp, -⟩ := h
    cases w <;> simp [classify, toRoute, decodeLenPrefixed_lenPrefixed p hp, hne p h0]
  | forward k t m =>
    obtain ⟨h0, hk, ht, -⟩ := h
    simp [classify, toRoute, decodeKeyTarget_enc k t hk ht, hne k h0]
  | agent id m =>
    obtain ⟨hl, hz, -⟩ := h
    simp [classify, toRoute, hl, List.take_of_length_le (Nat.le_of_eq hl), hz]

theorem filterMap_map_eq_self {α β : Type} {f : β → Option α} {g : α → β} (l : List α)
    (h : ∀ a ∈ l, f (g a) = some a) : (l.map g).filterMap f = l := by
  induction l with
  | nil => rfl
  | cons a l ih =>
    rw [List.map_cons, List.filterMap_cons, h a List.mem_cons_self,
      ih fun b hb => h b (List.mem_cons_of_mem _ hb)]

/-! ### routes on the wire -/

def sizeOf (l : List PRoute) : Nat := (l.map routeSize).sum

@[simp] theorem sizeOf_nil : sizeOf [] = 0 := rfl

@[simp] theorem sizeOf_cons (r : PRoute) (l : List PRoute) : sizeOf (r :: l) = routeSize r + sizeOf l := by
  simp [sizeOf]

@[simp] theorem sizeOf_reverse (l : List PRoute) : sizeOf l.reverse = sizeOf l := by
  simp [sizeOf, List.sum_reverse]

theorem encAll_route_length {c : Codec PRoute} (hc : ∀ r, (c.enc r).length = routeSize r)
    (l : List PRoute) : (encAll c l).length = sizeOf l := by
  induction l with
  | nil => rfl
  | cons r rs ih =>
    rw [encAll_cons, List.length_append, ih, hc, sizeOf_cons]

theorem advPrefix_enc (f : Nat) (p : Bytes) : (advPrefix f).enc p = p := by
  unfold advPrefix
  split
  · rfl
  · split
    · rfl
    · split <;> rfl

theorem advRoute_enc_length (r : PRoute) : (advRouteC.enc r).length = routeSize r := by
  simp only [advRouteC, seq_enc_length, dep_enc_length, be_enc_length, advPrefix_enc, routeSize]
  omega

theorem wdRoute_enc_length (r : PRoute) : (wdRouteC.enc r).length = routeSize r := by
  simp only [wdRouteC, seq_enc_length, dep_enc_length, be_enc_length, bytesN_enc, routeSize]
  omega

theorem advRoute_wf {fam plen m : Nat} {pfx : Bytes} : advRouteC.wf (((fam, plen), pfx), m) = true ↔
    (fam < 256 ∧ plen < 256) ∧ (advPrefix fam).wf pfx = true ∧ m < 65536 := by
  simp only [advRouteC, seq_wf, dep_wf, be_wf, and_assoc, Nat.reducePow]

theorem wdRoute_wf {fam plen m : Nat} {pfx : Bytes} : wdRouteC.wf (((fam, plen), pfx), m) = true ↔
    (fam < 256 ∧ plen < 256) ∧ pfx.length = wdPrefixLen fam ∧ m < 65536 := by
  simp only [wdRouteC, seq_wf, dep_wf, be_wf, bytesN_wf, and_assoc, Nat.reducePow]

theorem toRoute_wf (e : Entry) (h : entryWF e = true) : advRouteC.wf (toRoute e) = true := by
  have h := (entryWF_iff e).mp h
  cases e with
  | cidr fam plen ip m =>
    rcases h.1 with ⟨rfl, hl, hp⟩ | ⟨rfl, hl, hp⟩ <;>
      exact advRoute_wf.mpr ⟨⟨by decide, Nat.lt_of_le_of_lt hp (by decide)⟩, bytesN_wf.mpr hl, h.2⟩
  | domain p w m =>
    exact advRoute_wf.mpr ⟨⟨by decide, by cases w <;> decide⟩,
      peek1_wf_cons.mpr (UInt8.toNat_ofNat_of_lt h.2.1), h.2.2⟩
  | forward k t m =>
    exact advRoute_wf.mpr ⟨⟨by decide, by decide⟩, fwdPrefix_wf.mpr ⟨_, k, _, t, rfl,
      (UInt8.toNat_ofNat_of_lt h.2.1).symm, UInt8.toNat_ofNat_of_lt h.2.2.1⟩, h.2.2.2⟩
  | agent id m => exact advRoute_wf.mpr ⟨⟨by decide, by decide⟩, bytesN_wf.mpr h.1, h.2.2⟩

/-- 516 = 4 (family, prefix length, metric) + 512 (a forward key and target of 255 bytes, each
    with its length byte) -/
theorem toRoute_size (e : Entry) (h : entryWF e = true) : routeSize (toRoute e) ≤ 516 := by
  have h := (entryWF_iff e).mp h
  cases e with
  | cidr fam plen ip m => rcases h.1 with ⟨-, hl, -⟩ | ⟨-, hl, -⟩ <;> simp [routeSize, toRoute, hl]
  | domain p w m => simp [routeSize, toRoute, lenPrefixed]; omega
  | forward k t m => simp [routeSize, toRoute, lenPrefixed]; omega
  | agent id m => simp [routeSize, toRoute, h.1]

/-! ### the splitting loop -/

theorem splitLoop_flatten (budget : Nat) (rs cur : List PRoute) (size : Nat) :
    (splitLoop budget rs cur size).flatten = cur.reverse ++ rs := by
  fun_induction splitLoop budget rs cur size <;> simp [*]

theorem splitLoop_length_le (budget : Nat) (rs cur : List PRoute) (size : Nat) :
    (splitLoop budget rs cur size).length ≤ rs.length + 1 := by
  fun_induction splitLoop budget rs cur size <;> simp only [List.length_cons, List.length_nil] <;> omega

/-- where no single route exceeds the budget, every group has at most 255 routes and stays within it -/
theorem splitLoop_groups (budget : Nat) (rs cur : List PRoute) (size : Nat)
    (hM : ∀ r ∈ rs, routeSize r ≤ budget) (hsize : size = sizeOf cur)
    (hcur : cur.length ≤ 255 ∧ sizeOf cur ≤ budget) :
    ∀ g ∈ splitLoop budget rs cur size, g.length ≤ 255 ∧ sizeOf g ≤ budget := by
  fun_induction splitLoop budget rs cur size with
  | case1 => simpa using hcur
  | case2 r rs cur size _ ih =>
    -- the current group is closed and `r` starts a new one
    have hr := hM r List.mem_cons_self
    have := ih (fun x hx => hM x (List.mem_cons_of_mem _ hx)) (by simp) ⟨by simp, by simpa using hr⟩
    simpa [hcur] using this
  | case3 r rs cur size hcond ih =>
    -- `r` joins the current group: the group is empty, or has room for it
    have hr := hM r List.mem_cons_self
    refine ih (fun x hx => hM x (List.mem_cons_of_mem _ hx))
      (by rw [sizeOf_cons, hsize, Nat.add_comm]) ?_
    cases cur with
    | nil => exact ⟨by simp, by simpa using hr⟩
    | cons c cs =>
      simp at hcond
      rw [sizeOf_cons]
      simp only [List.length_cons] at hcond ⊢
      omega

theorem splitRoutes_flatten (budget : Nat) (rs : List PRoute) :
    (splitRoutes budget rs).flatten = rs := by
  simp [splitRoutes, splitLoop_flatten]

theorem splitRoutes_groups (budget : Nat) (rs : List PRoute) (hM : ∀ r ∈ rs, routeSize r ≤ budget) :
    ∀ g ∈ splitRoutes budget rs, g.length ≤ 255 ∧ sizeOf g ≤ budget :=
  splitLoop_groups budget rs [] 0 hM rfl ⟨by simp, by simp⟩

theorem splitRoutes_length_le (budget : Nat) (rs : List PRoute) :
    (splitRoutes budget rs).length ≤ rs.length + 1 :=
  splitLoop_length_le budget rs [] 0

/-- The groups cut for well-formed entries with the budget left by `fixed` bytes of other fields:
    at most 255 routes each, and each message stays `headroom` below the payload limit.  `hf` keeps
    the budget above the 516 bytes of the largest route (8446 is `fixedLen_le`; 14844 would do). -/
theorem split_groups_fit {fixed : Nat} (hf : fixed ≤ 8446) (es : List Entry)
    (hes : es.all entryWF = true) :
    ∀ g ∈ splitRoutes (maxPayload - headroom - fixed) (es.map toRoute),
      g.length ≤ 255 ∧ fixed + sizeOf g ≤ maxPayload - headroom := by
  intro g hg
  have hb : 516 ≤ maxPayload - headroom - fixed ∧ fixed ≤ maxPayload - headroom := by
    have hmp : maxPayload = 16384 := rfl
    have hh : headroom = 1024 := rfl
    omega
  have hsize : ∀ r ∈ es.map toRoute, routeSize r ≤ maxPayload - headroom - fixed := by
    intro r hr
    obtain ⟨e, he, rfl⟩ := List.mem_map.mp hr
    exact Nat.le_trans (toRoute_size e (List.all_eq_true.mp hes e he)) hb.1
  obtain ⟨h1, h2⟩ := splitRoutes_groups _ _ hsize g hg
  exact ⟨h1, Nat.add_comm .. ▸ Nat.add_le_of_le_sub hb.2 h2⟩

theorem split_groups_all {P : PRoute → Bool} {budget : Nat} {es : List Entry}
    (h : ∀ e ∈ es, P (toRoute e) = true) :
    ∀ g ∈ splitRoutes budget (es.map toRoute), g.all P = true := by
  intro g hg
  refine List.all_eq_true.mpr fun r hr => ?_
  have hmem := List.mem_flatten.mpr ⟨g, hg, hr⟩
  rw [splitRoutes_flatten] at hmem
  obtain ⟨e, he, rfl⟩ := List.mem_map.mp hmem
  exact h e he

/-! ### one advertisement -/

theorem baseWF_iff {b : Base} : baseWF b = true ↔
    b.origin.length = 16 ∧ b.name.length < 256 ∧ ids.wf b.path = true ∧ ids.wf b.seenBy = true := by
  simp only [baseWF, Bool.and_eq_true, beq_iff_eq, decide_eq_true_eq, and_assoc]

theorem adv_enc_length (b : Base) (sq : Nat) (g : List PRoute) :
    (routeAdvertiseC.enc (b.adv sq g)).length = fixedLen b + sizeOf g := by
  simp only [fixedLen, routeAdvertiseC, Base.adv, seq_enc_length, be_enc_length, listN_enc_length,
    encAll_route_length advRoute_enc_length, sizeOf_nil]
  omega

/-- 8446 = 16 (origin) + 256 (name) + 8 (sequence) + 1 (route count) + 3 + 4081 (path blob of 255
    ids) + 4081 (255 seen-by ids) -/
theorem fixedLen_le (b : Base) (hb : baseWF b = true) : fixedLen b ≤ 8446 := by
  obtain ⟨ho, hn, hp, hs⟩ := baseWF_iff.mp hb
  have l1 := ids_enc_length hp
  have l2 := ids_enc_length hs
  have := (listN_wf.mp hp).1
  have := (listN_wf.mp hs).1
  simp [fixedLen, routeAdvertiseC, Base.adv, encPathC, l1, l2, ho]
  omega

theorem encPath_wf {path : List Bytes} (h : ids.wf path = true) :
    encPathC.wf (false, ids.enc path) = true := by
  have hl := ids_enc_length h
  have := (listN_wf.mp h).1
  have hd := ids_lawful.sound path [] h
  rw [List.append_nil] at hd
  exact refine_wf.mpr ⟨seq_wf.mpr ⟨rfl, lp_wf.mpr (show (ids.enc path).length < 256 ^ 2 by omega)⟩,
    by simp [pathOK, hd]⟩

theorem routeAdvertise_wf_iff {o n : Bytes} {sq : Nat} {rs : List PRoute} {ep : Bool × Bytes}
    {sb : List Bytes} : routeAdvertiseC.wf (o, n, sq, rs, ep, sb) = true ↔
      o.length = 16 ∧ n.length < 256 ∧ sq < 2 ^ 64 ∧ (rs.length < 256 ∧ rs.all advRouteC.wf = true) ∧
        encPathC.wf ep = true ∧ ids.wf sb = true := by
  simp only [routeAdvertiseC, seq_wf, bytesN_wf, lp_wf, be_wf, listN_wf (c := advRouteC)]

theorem adv_wf (b : Base) (hb : baseWF b = true) (sq : Nat) (hseq : sq < 2 ^ 64)
    (g : List PRoute) (hg : g.length ≤ 255) (hall : g.all advRouteC.wf = true) :
    routeAdvertiseC.wf (b.adv sq g) = true :=
  have ⟨ho, hn, hp, hs⟩ := baseWF_iff.mp hb
  routeAdvertise_wf_iff.mpr ⟨ho, hn, hseq, ⟨Nat.lt_succ_of_le hg, hall⟩, encPath_wf hp, hs⟩

theorem deliver_of_le {p : Bytes} (h : p.length ≤ maxPayload) : deliver p = some p :=
  if_neg (Nat.not_lt.mpr h)

theorem learn_enc {a : RouteAdv} (h : routeAdvertiseC.wf a = true) :
    learn (routeAdvertiseC.enc a) = some (a.2.2.2.1.filterMap classify) := by
  rw [learn, show decodeRouteAdvertise _ = _ from routeAdvertise_lawful.roundtrip a h]

theorem learnAll_go (b : Base) (hb : baseWF b = true) (groups : List (List PRoute)) (sq : Nat)
    (hseq : sq + groups.length ≤ 2 ^ 64)
    (hgs : ∀ g ∈ groups, g.length ≤ 255 ∧ g.all advRouteC.wf = true ∧ fixedLen b + sizeOf g ≤ maxPayload) :
    learnAll (advertise.go b sq groups) = some (groups.flatten.filterMap classify) := by
  induction groups generalizing sq with
  | nil => rfl
  | cons g gs ih =>
    obtain ⟨h1, h2, h3⟩ := hgs g List.mem_cons_self
    rw [List.length_cons] at hseq
    simp only [advertise.go, learnAll, deliver_of_le (adv_enc_length b sq g ▸ h3),
      learn_enc (adv_wf b hb sq (by omega) g h1 h2),
      ih (sq + 1) (by omega) fun x hx => hgs x (List.mem_cons_of_mem _ hx)]
    simp [Base.adv]

theorem learnAll_singleton (p : Bytes) : learnAll [p] = (deliver p).bind learn := by
  rw [learnAll]
  cases deliver p with
  | none => rfl
  | some q =>
    simp only [Option.bind_some, learnAll]
    cases learn q <;> simp

/-! ### withdrawals -/

/-- on CIDR routes `protocolRouteToIPNet` is the CIDR arm of the classification switch -/
theorem toIPNet_toRoute (e : Entry) (h : entryWF e = true) (hc : isCidr e = true) :
    toIPNet (toRoute e) = some e := by
  cases e with
  | cidr fam plen ip m =>
    rw [← classify_toRoute _ h]
    rcases ((entryWF_iff _).mp h).1 with ⟨rfl, -⟩ | ⟨rfl, -⟩ <;> rfl
  | _ => cases hc

theorem toRoute_wdwf (e : Entry) (h : entryWF e = true) (hc : isCidr e = true) :
    wdRouteC.wf (toRoute e) = true := by
  cases e with
  | cidr fam plen ip m =>
    obtain ⟨hf, hm⟩ := (entryWF_iff _).mp h
    rcases hf with ⟨rfl, hl, hp⟩ | ⟨rfl, hl, hp⟩ <;>
      exact wdRoute_wf.mpr ⟨⟨by decide, Nat.lt_of_le_of_lt hp (by decide)⟩, hl, hm⟩
  | _ => cases hc

theorem wd_enc_length (self : Bytes) (sq : Nat) (g : List PRoute) :
    (routeWithdrawC.enc (self, sq, g, [self])).length = withdrawFixed self + sizeOf g := by
  simp only [withdrawFixed, routeWithdrawC, seq_enc_length, be_enc_length, listN_enc_length,
    encAll_route_length wdRoute_enc_length, sizeOf_nil]
  omega

theorem withdrawFixed_eq (self : Bytes) (h : self.length = 16) : withdrawFixed self = 42 := by
  simp [withdrawFixed, routeWithdrawC, h]

theorem wd_wf (self : Bytes) (hs : self.length = 16) (sq : Nat) (hseq : sq < 2 ^ 64)
    (g : List PRoute) (hg : g.length ≤ 255) (hall : g.all wdRouteC.wf = true) :
    routeWithdrawC.wf (self, sq, g, [self]) = true := by
  simp only [routeWithdrawC, seq_wf, bytesN_wf, be_wf, listN_wf]
  exact ⟨hs, hseq, ⟨Nat.lt_succ_of_le hg, hall⟩, (show 1 < 256 ^ 1 by decide), by simp [hs]⟩

theorem learnWithdraw_enc {w : RouteWd} (h : routeWithdrawC.wf w = true) :
    learnWithdraw (routeWithdrawC.enc w) = some (w.2.2.1.filterMap toIPNet) := by
  rw [learnWithdraw, show decodeRouteWithdraw _ = _ from routeWithdraw_lawful.roundtrip w h]

theorem withdrawAll_go (self : Bytes) (hs : self.length = 16) (groups : List (List PRoute)) (sq : Nat)
    (hseq : sq + groups.length ≤ 2 ^ 64)
    (hgs : ∀ g ∈ groups, g.length ≤ 255 ∧ g.all wdRouteC.wf = true ∧
      withdrawFixed self + sizeOf g ≤ maxPayload) :
    withdrawAll (withdrawLocal.go self sq groups) = some (groups.flatten.filterMap toIPNet) := by
  induction groups generalizing sq with
  | nil => rfl
  | cons g gs ih =>
    obtain ⟨h1, h2, h3⟩ := hgs g List.mem_cons_self
    rw [List.length_cons] at hseq
    simp only [withdrawLocal.go, withdrawAll, deliver_of_le (wd_enc_length self sq g ▸ h3),
      learnWithdraw_enc (wd_wf self hs sq (by omega) g h1 h2),
      ih (sq + 1) (by omega) fun x hx => hgs x (List.mem_cons_of_mem _ hx)]
    simp

theorem withdrawAll_singleton (p : Bytes) :
    withdrawAll [p] = (deliver p).bind learnWithdraw := by
  rw [withdrawAll]
  cases deliver p with
  | none => rfl
  | some q =>
    simp only [Option.bind_some, withdrawAll]
    cases learnWithdraw q <;> simp

end MM.C06

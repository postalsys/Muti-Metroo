/-
  Association lists keyed by `Nat` as models of Go maps: `List.lookup` after `delete(m, k)` (the key is
  filtered out) and after `m[k] = v`.  Shared by the map types of MM/Model/C16.lean (`Map`), C18.lean (`Mgr`)
  and C39.lean (`AMap`).
-/
namespace MM.Assoc
variable {β : Type}

theorem lookup_filter_ne (m : List (Nat × β)) {k k' : Nat} (h : k' ≠ k) :
    (m.filter (fun e => e.1 != k)).lookup k' = m.lookup k' := by
  induction m with
  | nil => rfl
  | cons e t ih =>
    by_cases he : e.1 = k
    · rw [List.filter_cons_of_neg (by simpa using he), ih, List.lookup_cons, he, beq_false_of_ne h]
    · rw [List.filter_cons_of_pos (by simpa using he), List.lookup_cons, List.lookup_cons, ih]

theorem lookup_filter_self (m : List (Nat × β)) (k : Nat) :
    (m.filter (fun e => e.1 != k)).lookup k = none :=
  List.lookup_eq_none_iff.2 fun e he => by simpa [bne_comm] using (List.mem_filter.1 he).2

/-- `(k, v) :: m.filter (·.1 != k)` is how the models write `m[k] = v` (at `k` itself: `List.lookup_cons_self`). -/
theorem lookup_set_ne (m : List (Nat × β)) (v : β) {k k' : Nat} (h : k' ≠ k) :
    ((k, v) :: m.filter (fun e => e.1 != k)).lookup k' = m.lookup k' := by
  rw [List.lookup_cons, beq_false_of_ne h]
  exact lookup_filter_ne m h

end MM.Assoc

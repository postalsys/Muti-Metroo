/-
  C35 (Redacted()): `redact` looks only at whether a string is empty; membership in `secretPaths`
  leaf by leaf; in the memory model, arrays allocated before the call are not written.
-/
import MM.Model.C35

namespace MM.C35

theorem redact_nil : redact [] = [] := rfl

theorem redact_of_ne {s : Bytes} (h : s ≠ []) : redact s = placeholder := if_pos h

theorem redact_cases (s : Bytes) : redact s = [] ∨ redact s = placeholder := by
  by_cases h : s = []
  · left; subst h; exact redact_nil
  · right; exact redact_of_ne h

theorem redact_congr {a b : Bytes} (h : a = [] ↔ b = []) : redact a = redact b := by
  by_cases ha : a = []
  · have hb := h.mp ha; subst ha hb; rfl
  · rw [redact_of_ne ha, redact_of_ne (mt h.mpr ha)]

/-- The right-hand side tests the leaf's path before `isSecretLeaf`, so that `decide` on a membership
    evaluates `isSecretLeaf` on the leaf of that path only. -/
theorem mem_secretPaths {p : Path} :
    p ∈ secretPaths ↔ ∃ l ∈ Gen.C35.leaves, l.yaml = p ∧ isSecretLeaf l = true := by
  simp only [secretPaths, List.mem_map, List.mem_filter]
  constructor
  · rintro ⟨l, ⟨hl, hs⟩, rfl⟩; exact ⟨l, hl, rfl, hs⟩
  · rintro ⟨l, hl, rfl, hs⟩; exact ⟨l, ⟨hl, hs⟩, rfl⟩

theorem stepList_arrays_of_lt (red : List Path) (st : Store × CfgVal) (i : Nat) (x : Nat)
    (hx : x < st.1.next) :
    (stepList red true st i).1.arrays x = st.1.arrays x ∧ st.1.next ≤ (stepList red true st i).1.next := by
  have h1 : x ≠ st.1.next := Nat.ne_of_lt hx
  simp [stepList, Store.clone, Store.redactArray, h1]

theorem foldl_stepList_arrays_of_lt (red : List Path) (detach : Nat → Bool) (is : List Nat)
    (hd : ∀ i ∈ is, detach i = true) (st : Store × CfgVal) (x : Nat) (hx : x < st.1.next) :
    (is.foldl (fun st i => stepList red (detach i) st i) st).1.arrays x = st.1.arrays x := by
  induction is generalizing st with
  | nil => rfl
  | cons i rest ih =>
    have s := stepList_arrays_of_lt red st i x hx
    obtain ⟨hi, hrest⟩ := List.forall_mem_cons.mp hd
    rw [List.foldl_cons, hi, ih hrest _ (Nat.lt_of_lt_of_le hx s.2), s.1]

end MM.C35

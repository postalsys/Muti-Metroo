/-
  Helper lemmas for C23 (and C21): `readFull` on concatenations and truncations, the parser on
  encoded requests, inversion of a successful authentication phase, shape of written messages.
-/
import MM.Model.C23
namespace MM.C23

theorem readFull_append {n : Nat} (a b : Bytes) (h : a.length = n) : readFull n (a ++ b) = some (a, b) := by
  subst h
  simp [readFull]

theorem readFull_eq_some {n : Nat} {inp x r : Bytes} (h : readFull n inp = some (x, r)) :
    inp = x ++ r ∧ x.length = n := by
  obtain ⟨hle, e⟩ := Option.ite_none_right_eq_some.1 h
  cases e
  exact ⟨(List.take_append_drop n inp).symm, List.length_take_of_le hle⟩

theorem readFull_short {n : Nat} {l : Bytes} (h : l.length < n) : readFull n l = none := by
  unfold readFull
  rw [if_neg (by omega)]

theorem readFull_take {n k : Nat} (a b : Bytes) (ha : a.length = n) :
    readFull n ((a ++ b).take k) = if n ≤ k then some (a, b.take (k - n)) else none := by
  subst ha
  by_cases h : a.length ≤ k
  · rw [if_pos h, List.take_append, List.take_of_length_le h]
    exact readFull_append _ _ rfl
  · rw [if_neg h]
    exact readFull_short (by simp [List.length_take]; omega)

/-! ### `readRequest` and `authenticate` on every prefix of an encoded stream

  Both are chains of read steps; on a prefix of `encoded ++ rest` each step either has its bytes or
  fails silently, so the whole succeeds iff the prefix covers what was encoded. -/

/-- One read step of either parser: `io.ReadFull` of `n` bytes, then `f` on what was read and what
    is left; `fail` (an error return without a reply) when the stream ends early. -/
def readThen {α : Type} (fail : α) (n : Nat) (inp : Bytes) (f : Bytes → Bytes → α) : α :=
  match readFull n inp with
  | none => fail
  | some (a, r) => f a r

theorem readThen_take {α : Type} {fail : α} {n : Nat} (a b : Bytes) (ha : a.length = n) (k : Nat)
    (f : Bytes → Bytes → α) :
    readThen fail n ((a ++ b).take k) f = if n ≤ k then f a (b.take (k - n)) else fail := by
  by_cases h : n ≤ k <;> simp [readThen, readFull_take a b ha, h]

theorem ite_le_sub {α : Type} (a b k : Nat) (x y : α) :
    (if a ≤ k then (if b ≤ k - a then x else y) else y) = if a + b ≤ k then x else y := by
  by_cases h : a ≤ k
  · simp only [if_pos h, Nat.le_sub_iff_add_le' h]
  · rw [if_neg h, if_neg (by omega)]

/-- The last step of `readRequest`: the port. -/
def readPort (cmd : UInt8) (d : Dest) (r : Bytes) : ReqOut :=
  readThen (.err []) 2 r fun pb _ => .ok cmd d (unbe pb)

theorem readPort_take (cmd : UInt8) (d : Dest) (port : Nat) (rest : Bytes) (k : Nat) :
    readPort cmd d ((beN 2 port ++ rest).take k) =
      if 2 ≤ k then .ok cmd d (port % 65536) else .err [] := by
  unfold readPort
  rw [readThen_take _ _ (beN_length 2 port), unbe_beN]

theorem readRequest_eq (inp : Bytes) :
    readRequest inp =
      readThen (.err []) 4 inp fun hdr r1 =>
        if hdr[0]! ≠ 0x05 then .err []
        else if hdr[3]! = 0x01 then readThen (.err []) 4 r1 fun a r2 => readPort hdr[1]! (.v4 a) r2
        else if hdr[3]! = 0x03 then
          readThen (.err []) 1 r1 fun lb r2 =>
            if (lb[0]!).toNat = 0 then .err [mkReply 0x01 [] 0]
            else readThen (.err []) (lb[0]!).toNat r2 fun dm r3 => readPort hdr[1]! (.dom dm) r3
        else if hdr[3]! = 0x04 then readThen (.err []) 16 r1 fun a r2 => readPort hdr[1]! (.v6 a) r2
        else .err [mkReply 0x08 [] 0] :=
  rfl

theorem readRequest_badAtyp (cmd rsv atyp : UInt8) (ha : atyp ≠ 0x01 ∧ atyp ≠ 0x03 ∧ atyp ≠ 0x04)
    (r1 : Bytes) : readRequest ([0x05, cmd, rsv, atyp] ++ r1) = .err [mkReply 0x08 [] 0] := by
  unfold readRequest
  rw [readFull_append (n := 4) _ r1 rfl]
  simp [ha.1, ha.2.1, ha.2.2]

theorem encodeRequest_cons (cmd rsv : UInt8) {d : Dest} {a : UInt8} {body : Bytes} (he : d.encode = a :: body)
    (port : Nat) (rest : Bytes) :
    encodeRequest cmd rsv d port ++ rest = [0x05, cmd, rsv, a] ++ (body ++ (beN 2 port ++ rest)) ∧
      (encodeRequest cmd rsv d port).length = 4 + (body.length + 2) :=
  ⟨by simp [encodeRequest, he], by simp [encodeRequest, he]; omega⟩

theorem readRequest_take (cmd rsv : UInt8) (d : Dest) (hd : d.wf) (port : Nat) (rest : Bytes) (k : Nat) :
    readRequest ((encodeRequest cmd rsv d port ++ rest).take k) =
      if (encodeRequest cmd rsv d port).length ≤ k then .ok cmd d (port % 65536) else .err [] := by
  cases d with
  | v4 b =>
    obtain ⟨e, hlen⟩ := encodeRequest_cons cmd rsv (d := .v4 b) (body := b) rfl port rest
    rw [e, hlen, readRequest_eq, readThen_take (n := 4) _ _ rfl]
    -- the header checks on literals, then the address step and the port step
    simp only [List.getElem!_cons_zero, List.getElem!_cons_succ, ne_eq, not_true_eq_false, if_false, if_true,
      readThen_take b _ hd, readPort_take, ite_le_sub, show b.length = 4 from hd]
  | dom dm =>
    obtain ⟨e, hlen⟩ :=
      encodeRequest_cons cmd rsv (d := .dom dm) (body := [UInt8.ofNat dm.length] ++ dm) rfl port rest
    rw [e, hlen, List.append_assoc, readRequest_eq, readThen_take (n := 4) _ _ rfl]
    simp +decide only [List.getElem!_cons_zero, List.getElem!_cons_succ, ne_eq, if_false, if_true,
      readThen_take (n := 1) [_] _ rfl, UInt8.toNat_ofNat_of_lt' hd.2, if_neg (Nat.ne_of_gt hd.1),
      readThen_take dm _ rfl, readPort_take, ite_le_sub, List.length_append, List.length_singleton,
      Nat.add_assoc]
  | v6 b =>
    obtain ⟨e, hlen⟩ := encodeRequest_cons cmd rsv (d := .v6 b) (body := b) rfl port rest
    rw [e, hlen, readRequest_eq, readThen_take (n := 4) _ _ rfl]
    simp +decide only [List.getElem!_cons_zero, List.getElem!_cons_succ, ne_eq, if_false, if_true,
      readThen_take b _ hd, readPort_take, ite_le_sub, show b.length = 16 from hd]

theorem requestPhase_err {env : Env} {inp : Bytes} {rs : List Bytes} (h : readRequest inp = .err rs) :
    requestPhase env inp = ⟨rs, .none, none⟩ := by
  rw [requestPhase, h]

theorem requestPhase_ok {env : Env} {inp : Bytes} {cmd : UInt8} {d : Dest} {port : Nat}
    (h : readRequest inp = .ok cmd d port) : requestPhase env inp = dispatch env cmd d port := by
  rw [requestPhase, h]

theorem selectAuth_noAuth {methods : Bytes} (h : (0 : UInt8) ∈ methods) :
    selectAuth [.noAuth] methods = some .noAuth := by
  simp [selectAuth, Auth.method, h]

theorem selectAuth_noAuth_none {methods : Bytes} (h : (0 : UInt8) ∉ methods) :
    selectAuth [.noAuth] methods = none := by
  simp [selectAuth, Auth.method, h]

theorem encodeGreeting_length (methods : Bytes) : (encodeGreeting methods).length = 2 + methods.length := by
  simp [encodeGreeting]; omega

/-- `authenticate` once the greeting is read: method selection and the selected sub-negotiation. -/
def selectPhase (auths : List Auth) (methods r2 : Bytes) : AuthOut :=
  match selectAuth auths methods with
  | none => ⟨[[0x05, 0xFF]], none, none⟩
  | some a =>
    match a with
    | .noAuth => ⟨[[0x05, a.method]], some r2, none⟩
    | .userPass valid =>
      let o := userPassAuth valid r2
      ⟨[0x05, a.method] :: o.replies, o.rest, o.creds⟩

theorem authenticate_eq (auths : List Auth) (inp : Bytes) :
    authenticate auths inp =
      readThen ⟨[], none, none⟩ 2 inp fun hdr r1 =>
        if hdr[0]! ≠ 0x05 then ⟨[], none, none⟩
        else readThen ⟨[], none, none⟩ (hdr[1]!).toNat r1 (selectPhase auths) :=
  rfl

theorem authenticate_take (auths : List Auth) (methods q : Bytes) (hl : methods.length < 256) (k : Nat) :
    authenticate auths ((encodeGreeting methods ++ q).take k) =
      if (encodeGreeting methods).length ≤ k then
        selectPhase auths methods (q.take (k - (encodeGreeting methods).length))
      else ⟨[], none, none⟩ := by
  have e : encodeGreeting methods ++ q = [0x05, UInt8.ofNat methods.length] ++ (methods ++ q) := by
    simp [encodeGreeting]
  rw [e, encodeGreeting_length, authenticate_eq, readThen_take (n := 2) _ _ rfl]
  -- the version byte passes, the count byte reads back as `methods.length`
  simp only [List.getElem!_cons_zero, List.getElem!_cons_succ, ne_eq, not_true_eq_false, if_false,
    UInt8.toNat_ofNat_of_lt' hl, readThen_take methods q rfl, ite_le_sub, Nat.sub_sub]

theorem one_byte {l : Bytes} (h : l.length = 1) : l = [l[0]!] := by
  match l, h with
  | [a], _ => rfl

theorem two_bytes {l : Bytes} (h : l.length = 2) : l = [l[0]!, l[1]!] := by
  match l, h with
  | [a, b], _ => rfl

theorem four_bytes {l : Bytes} (h : l.length = 4) : l = [l[0]!, l[1]!, l[2]!, l[3]!] := by
  match l, h with
  | [a, b, c, d], _ => rfl

theorem userPassAuth_rest {V : Bytes → Bytes → Bool} {inp r : Bytes} :
    (userPassAuth V inp).rest = some r →
    ∃ u p, V u p = true ∧ (userPassAuth V inp).creds = some (u, p) ∧
      inp = [0x01, UInt8.ofNat u.length] ++ u ++ [UInt8.ofNat p.length] ++ p ++ r ∧
      0 < u.length ∧ u.length < 256 ∧ p.length < 256 := by
  fun_cases userPassAuth V inp
  -- case7: the accepting branch; every other arm has `rest = none`
  case case7 hdr r1 h1 hv uLen hz uname r2 h2 pl r3 h3 pLen pw r4 h4 hval =>
    intro h
    cases h
    obtain ⟨e1, l1⟩ := readFull_eq_some h1
    obtain ⟨e2, l2⟩ := readFull_eq_some h2
    obtain ⟨e3, l3⟩ := readFull_eq_some h3
    obtain ⟨e4, l4⟩ := readFull_eq_some h4
    have h0 : hdr[0]! = 0x01 := by simpa using hv
    have hb := (hdr[1]!).toNat_lt
    have hc := (pl[0]!).toNat_lt
    refine ⟨uname, pw, hval, rfl, ?_, by omega, by omega, by omega⟩
    rw [e1, e2, e3, e4, two_bytes l1, one_byte l3, h0, l2, l4, UInt8.ofNat_toNat, UInt8.ofNat_toNat]
    simp
  all_goals exact fun h => nomatch h

theorem authenticate_userPass_rest {V : Bytes → Bytes → Bool} {inp r : Bytes} :
    (authenticate [.userPass V] inp).rest = some r →
    ∃ methods q, inp = encodeGreeting methods ++ q ∧ methods.length < 256 ∧
      (userPassAuth V q).rest = some r ∧
      (authenticate [.userPass V] inp).creds = (userPassAuth V q).creds := by
  have hsel : ∀ {methods a}, selectAuth [.userPass V] methods = some a → a = .userPass V := by
    intro methods a h
    simpa using List.mem_of_find?_eq_some h
  fun_cases authenticate [.userPass V] inp
  -- case5: `.noAuth` selected, case6: `.userPass`; the other arms have `rest = none`
  case case5 h _ => cases hsel h
  case case6 hdr r1 h1 hv methods r2 h2 V' _ h _ =>
    cases hsel h
    obtain ⟨e1, l1⟩ := readFull_eq_some h1
    obtain ⟨e2, l2⟩ := readFull_eq_some h2
    have h0 : hdr[0]! = 0x05 := by simpa using hv
    have hb := (hdr[1]!).toNat_lt
    refine fun h => ⟨methods, r2, ?_, by omega, h, rfl⟩
    rw [e1, e2, two_bytes l1, h0, encodeGreeting, l2, UInt8.ofNat_toNat]
    simp
  all_goals exact fun h => nomatch h

/-- `LocalAddr().(*net.TCPAddr).IP` is nil, an IPv4 (4 bytes) or an IPv6 (16 bytes) address. -/
def ipLenOk (b : Bytes) : Prop := b.length = 0 ∨ b.length = 4 ∨ b.length = 16

theorem is4in6_length {b : Bytes} (h : is4in6 b = true) : b.length = 16 := by
  simp only [is4in6, Bool.and_eq_true, beq_iff_eq] at h
  exact h.1.1.1

theorem to4_spec (b : Bytes) : match to4 b with
    | some q => q.length = 4
    | none => b.length ≠ 4 := by
  fun_cases to4 b
  · assumption
  · rename_i h; simp [is4in6_length h]
  · assumption

theorem isReply_mkReply (rep : UInt8) (ip : Bytes) (port : Nat) (h : ipLenOk ip) :
    isReply (mkReply rep ip port) = true := by
  have h4 := to4_spec ip
  fun_cases mkReply rep ip port
  · rename_i q hq
    rw [hq] at h4
    simp [isReply, show q.length = 4 from h4]
  · rename_i hq h0
    rw [hq] at h4
    simp [isReply, show ip.length = 16 from (h.resolve_left h0).resolve_left h4]
  · simp [isReply]

theorem wf_mkReply {rep : UInt8} {ip : Bytes} {port : Nat} (h : ipLenOk ip) :
    [mkReply rep ip port].all wfMsg = true := by
  simp [wfMsg, isReply_mkReply rep ip port h]

theorem userPassAuth_wf (valid : Bytes → Bytes → Bool) (inp : Bytes) :
    (userPassAuth valid inp).replies.all wfMsg = true := by
  fun_cases userPassAuth valid inp
  all_goals rfl

theorem authenticate_wf (auths : List Auth) (inp : Bytes) :
    (authenticate auths inp).replies.all wfMsg = true := by
  fun_cases authenticate auths inp
  any_goals rfl
  exact userPassAuth_wf _ _

def ReqOut.replies : ReqOut → List Bytes
  | .err rs => rs
  | .ok _ _ _ => []

theorem readRequest_wf (inp : Bytes) : (readRequest inp).replies.all wfMsg = true := by
  fun_cases readRequest inp
  any_goals rfl
  -- the three branches that end with the port step
  all_goals
    dsimp +zetaDelta only
    split <;> rfl

/-- Hypothesis of `C23_reply_wf` on the environment: addresses handed to `sendReply` are nil, IPv4
    or IPv6. -/
def Env.addrsOk (env : Env) : Prop :=
  (match env.dial with
   | .ok ip _ => ipLenOk ip
   | .fail _ => True) ∧ ipLenOk env.ctrlLocalIP

theorem handleConnect_wf (env : Env) (h : env.addrsOk) (d : Dest) (port : Nat) :
    (handleConnect env d port).replies.all wfMsg = true := by
  have hd := h.1
  unfold handleConnect
  dsimp only
  split
  · rename_i ip p heq
    rw [heq] at hd
    exact wf_mkReply hd
  · split <;> rfl

theorem handleUDP_wf (env : Env) (h : env.addrsOk) (d : Dest) (port : Nat) :
    (handleUDP env d port).replies.all wfMsg = true := by
  have hip : ipLenOk (if env.ctrlLocalIP.length ≠ 0 ∧ ¬ isUnspecified env.ctrlLocalIP
      then env.ctrlLocalIP else [127, 0, 0, 1]) := by
    split
    · exact h.2
    · exact Or.inr (Or.inl rfl)
  fun_cases handleUDP env d port
  any_goals rfl
  all_goals exact wf_mkReply hip

theorem handleICMP_wf (env : Env) (d : Dest) : (handleICMP env d).replies.all wfMsg = true := by
  fun_cases handleICMP env d
  all_goals rfl

theorem dispatch_wf (env : Env) (h : env.addrsOk) (cmd : UInt8) (d : Dest) (port : Nat) :
    (dispatch env cmd d port).replies.all wfMsg = true := by
  fun_cases dispatch env cmd d port
  · exact handleConnect_wf env h d port
  · exact handleUDP_wf env h d port
  · exact handleICMP_wf env d
  · rfl

theorem requestPhase_wf (env : Env) (h : env.addrsOk) (inp : Bytes) :
    (requestPhase env inp).replies.all wfMsg = true := by
  have := readRequest_wf inp
  cases hr : readRequest inp with
  | err rs => rw [requestPhase_err hr]; rwa [hr] at this
  | ok cmd d port => rw [requestPhase_ok hr]; exact dispatch_wf env h _ _ _

end MM.C23

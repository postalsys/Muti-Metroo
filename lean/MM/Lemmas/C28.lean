/-
  Lemmas shared by C28 and C29: what a successful `verify` guarantees (including the int64 corner
  cases of the timestamp arithmetic), and what `handle` does with a command.
-/
import MM.Model.C28
namespace MM.C28

/-- The two saturated values of `satDur` do not pass the fixed check: `minDur` stays negative under the
    wrapping negation, `maxDur` exceeds every window below it. -/
theorem absDur_window {w d : Int} (hw : w < 2^63 - 1)
    (h1 : ¬ absDur (satDur d) < 0) (h2 : ¬ absDur (satDur d) > w) : -w ≤ d ∧ d ≤ w := by
  unfold absDur satDur minDur maxDur wrap64 at *
  omega

/-- What the property promises about a command. -/
def Admissible (V : Verifier) (cfg : FCfg) (now : Int) (c : Cmd) : Prop :=
  c.sig ≠ .zero ∧ V c.origin c.id c.ts c.sig = true ∧
  -cfg.window ≤ now - cmdSec c.ts * 1000000000 ∧ now - cmdSec c.ts * 1000000000 ≤ cfg.window

theorem verify_sound (V : Verifier) (cfg : FCfg) (now : Int) (c : Cmd)
    (hk : cfg.signing = true) (hw : cfg.window < 2^63 - 1) (h : verify V cfg now c = true) :
    Admissible V cfg now c := by
  unfold verify at h
  revert h
  -- no signing key; zero signature; timestamp outside the window; the verdict of `V`
  fun_cases verifyWith tsOutside V cfg now c
  case case1 hs => rw [hk] at hs; cases hs
  case case4 hz ho =>
    unfold tsOutside since at ho
    simp only [Bool.or_eq_true, decide_eq_true_eq, not_or] at ho
    exact fun h => ⟨hz, h, absDur_window hw ho.1 ho.2⟩
  all_goals exact nofun

/-- `handle` either refuses — nothing is sent; the state is `st`, or its seen cache is the `mark`ed one
    (the key was already there) — or accepts: the command verified, its key was new, the seen cache
    is the `mark`ed one, and every frame sent is the command with this agent appended to `SeenBy`.
    (`pending` is not described.) -/
theorem handle_cases (V : Verifier) (cfg : FCfg) (st : FState) (now : Int) (k : Kind) (from_ : Nat) (c : Cmd) :
    ((handle V cfg st now k from_ c).2 = (false, []) ∧
      ((handle V cfg st now k from_ c).1 = st ∨
       (handle V cfg st now k from_ c).1.seen = (mark st.seen now c.origin c.id from_).1)) ∨
    ((handle V cfg st now k from_ c).2.1 = true ∧ verify V cfg now c = true ∧
      (mark st.seen now c.origin c.id from_).2 = true ∧
      (handle V cfg st now k from_ c).1.seen = (mark st.seen now c.origin c.id from_).1 ∧
      ∀ x ∈ (handle V cfg st now k from_ c).2.2, x.2 = { c with seenBy := c.seenBy ++ [cfg.localID] }) := by
  unfold handle
  -- own id in `SeenBy`; not verified; key already seen; accepted
  fun_cases handleWith tsOutside V cfg st now k from_ c
  case case1 | case2 => exact Or.inl ⟨rfl, Or.inl rfl⟩
  case case3 hm _ _ => exact Or.inl ⟨rfl, Or.inr (by rw [hm])⟩
  case case4 hv _ _ hm _ hnew _ _ _ =>
    exact Or.inr ⟨rfl, by simpa [verify] using hv, by rw [hm]; simpa using hnew, by rw [hm]; cases k <;> rfl,
      List.forall_mem_map.mpr fun _ _ => rfl⟩

end MM.C28

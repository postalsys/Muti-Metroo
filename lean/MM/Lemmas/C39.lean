/-
  C39 — the map laws of `AMap` (generic values) and the two outcomes of `onReq`.
-/
import MM.Model.C39
import MM.Lemmas.Assoc

namespace MM.C39
variable {β : Type}

theorem AMap.get_del_ne (m : AMap β) (k k' : Nat) (h : k' ≠ k) : (m.del k).get k' = m.get k' :=
  Assoc.lookup_filter_ne m h

theorem AMap.get_del_same (m : AMap β) (k : Nat) : (m.del k).get k = none :=
  Assoc.lookup_filter_self m k

theorem AMap.get_set_same (m : AMap β) (k : Nat) (v : β) : (m.set k v).get k = some v :=
  List.lookup_cons_self

theorem AMap.get_set_ne (m : AMap β) (k : Nat) (v : β) (k' : Nat) (h : k' ≠ k) : (m.set k v).get k' = m.get k' :=
  Assoc.lookup_set_ne m v h

theorem Ag.onReq_cases (a : Ag) (src id target : Nat) (path : List Nat) :
    (∃ ok, a.onReq src id target path = (a, [.send src (.resp id ok a.self)])) ∨
    ∃ n rest, a.onReq src id target path = ({ a with fwd := a.fwd.set id src }, [.send n (.req id target rest)]) := by
  fun_cases Ag.onReq a src id target path
  · exact .inl ⟨_, rfl⟩
  · exact .inl ⟨_, rfl⟩
  · exact .inr ⟨_, _, rfl⟩
  · exact .inl ⟨_, rfl⟩

end MM.C39

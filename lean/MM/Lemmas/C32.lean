import MM.Model.C32

/-!
  Invariant of the connection table and its preservation by every step (either version of
  `handleDisconnect`: the invariant does not depend on the callback).
-/
namespace MM.C32

structure Inv (s : S) : Prop where
  /-- a map entry points to a started connection of that peer -/
  reg : ∀ p i, s.peers p = some i → (s.conn i).peer = p ∧ (s.conn i).started = true
  /-- a started connection that has not been closed is the registered one of its peer -/
  openReg : ∀ i, (s.conn i).started = true → (s.conn i).closed = false → s.peers (s.conn i).peer = some i
  /-- connection numbers not handed out yet are blank -/
  fresh : ∀ i, s.next ≤ i → s.conn i = {}
  /-- a rejected duplicate was never started and nothing was delivered from it -/
  rej : ∀ i, (s.conn i).rejected = true → (s.conn i).started = false ∧ (s.conn i).delivered = 0

theorem inv_init : Inv {} := by
  constructor <;> intros <;> simp_all

theorem callback_peers (s : S) (p : Nat) : (callback s p).peers = s.peers := rfl
theorem callback_conn (s : S) (p : Nat) : (callback s p).conn = s.conn := rfl
theorem callback_next (s : S) (p : Nat) : (callback s p).next = s.next := rfl

theorem inv_entries (s : S) (es : List Entry) (h : Inv s) : Inv { s with entries := es } :=
  ⟨h.reg, h.openReg, h.fresh, h.rej⟩

theorem not_reg_fresh {s : S} (h : Inv s) {p i : Nat} (hi : s.next ≤ i) : s.peers p ≠ some i := fun hp => by
  have := (h.reg p i hp).2
  rw [h.fresh i hi] at this
  cases this

theorem inv_setConn (s : S) (h : Inv s) (c : Nat) (k : Conn)
    (hreg : ∀ p, s.peers p = some c → k.peer = p ∧ k.started = true)
    (hopen : k.started = true → k.closed = false → s.peers k.peer = some c)
    (hfresh : c < s.next)
    (hrej : k.rejected = true → k.started = false ∧ k.delivered = 0) : Inv (s.setConn c k) := by
  constructor <;> simp only [S.setConn]
  · intro p i hp
    split
    · next he => exact hreg p (he ▸ hp)
    · exact h.reg p i hp
  · intro i
    split
    · next he => exact he ▸ hopen
    · exact h.openReg i
  · intro i hi
    split
    · next he => exact absurd (he ▸ hi) (Nat.not_le_of_lt hfresh)
    · exact h.fresh i hi
  · intro i
    split
    · exact hrej
    · exact h.rej i

theorem inv_update (s : S) (h : Inv s) (c : Nat) (k : Conn) (hst : (s.conn c).started = true)
    (hp : k.peer = (s.conn c).peer) (hs : k.started = (s.conn c).started)
    (hcl : k.closed = false → (s.conn c).closed = false) (hr : k.rejected = (s.conn c).rejected) :
    Inv (s.setConn c k) := by
  refine inv_setConn s h c k (fun p hpc => ⟨hp.trans (h.reg p c hpc).1, hs.trans hst⟩)
    (fun _ ho => hp ▸ h.openReg c hst (hcl ho)) (Nat.lt_of_not_le fun hle => ?_) (fun hrj => ?_)
  · rw [h.fresh c hle] at hst; cases hst
  · rw [(h.rej c (hr ▸ hrj)).1] at hst; cases hst

theorem inv_close (s : S) (h : Inv s) (c : Nat) (hs : (s.conn c).started = true) :
    Inv (closeConn s c) :=
  inv_update s h c _ hs rfl rfl nofun rfl

theorem setConn_self (s : S) (c : Nat) (k : Conn) : (s.setConn c k).conn c = k := if_pos rfl

theorem setPeer_peers (s : S) (p : Nat) (v : Option Nat) (q : Nat) :
    (s.setPeer p v).peers q = if q = p then v else s.peers q := rfl

theorem closeConn_closed (s : S) (c : Nat) : ((closeConn s c).conn c).closed = true := by
  rw [closeConn, setConn_self]

theorem inv_unregister (s : S) (h : Inv s) (c : Nat) (hc : (s.conn c).closed = true)
    (hr : s.peers (s.conn c).peer = some c) : Inv (s.setPeer (s.conn c).peer none) := by
  refine ⟨fun p i hp => ?_, fun i hs ho => ?_, h.fresh, h.rej⟩
  · rw [setPeer_peers] at hp
    split at hp
    · cases hp
    · exact h.reg p i hp
  · have := h.openReg i hs ho
    rw [setPeer_peers]
    split
    · next he =>
      cases Option.some.inj ((he ▸ this).symm.trans hr)
      cases hc.symm.trans ho
    · exact this

theorem inv_handleDisconnect (fx : Bool) (s : S) (h : Inv s) (c : Nat) (hc : (s.conn c).closed = true) :
    Inv (handleDisconnect fx s c) := by
  fun_cases handleDisconnect fx s c
  case case1 hp => exact inv_entries _ _ (inv_unregister s h c hc hp)
  case case2 => exact h
  all_goals exact inv_entries _ _ h

theorem inv_disconnectPeer (s : S) (h : Inv s) (p : Nat) : Inv (disconnectPeer s p) := by
  unfold disconnectPeer
  split
  · next c hp =>
    obtain ⟨hpe, hst⟩ := h.reg p c hp
    -- close first, then un-register: same final state
    have h2 := inv_unregister (closeConn s c) (inv_close s h c hst) c (closeConn_closed s c)
    have hpeer : ((closeConn s c).conn c).peer = p := by rw [closeConn, setConn_self]; exact hpe
    rw [hpeer] at h2
    exact h2 hp
  · exact h

theorem inv_disconnectAll (ps : List Nat) : ∀ s, Inv s → Inv (ps.foldl disconnectPeer s) := by
  induction ps with
  | nil => exact fun _ h => h
  | cons p ps ih => exact fun s h => ih _ (inv_disconnectPeer s h p)

/-- `registerConnection` for a peer without a connection: the next number is handed out and registered. -/
theorem inv_register (s : S) (h : Inv s) (p : Nat) (hp : s.peers p = none) (k : Conn) (hk : k.peer = p)
    (hs : k.started = true) (hr : k.rejected = false) :
    Inv (({ s with next := s.next + 1 }.setConn s.next k).setPeer p (some s.next)) := by
  constructor <;> simp only [S.setPeer, S.setConn]
  · intro q i hq
    split at hq
    · next hqp =>
      cases hq
      rw [if_pos rfl]
      exact ⟨hk.trans hqp.symm, hs⟩
    · rw [if_neg fun he => not_reg_fresh h (Nat.le_of_eq he.symm) hq]
      exact h.reg q i hq
  · intro i
    split
    · next he => exact fun _ _ => he ▸ rfl
    · intro hst ho
      have := h.openReg i hst ho
      rw [if_neg fun hpe => by rw [hpe, hp] at this; cases this]
      exact this
  · intro i hi
    rw [if_neg (Nat.ne_of_gt hi)]
    exact h.fresh i (Nat.le_of_succ_le hi)
  · intro i
    split
    · rw [hr]; nofun
    · exact h.rej i

/-- `registerConnection` for a peer that has a connection: the next number goes to a record that is
    closed at once and never started. -/
theorem inv_reject (s : S) (h : Inv s) (k : Conn) (hc : k.closed = true) (hs : k.started = false)
    (hd : k.delivered = 0) : Inv ({ s with next := s.next + 1 }.setConn s.next k) :=
  inv_setConn { s with next := s.next + 1 } ⟨h.reg, h.openReg, fun i hi => h.fresh i (Nat.le_of_succ_le hi), h.rej⟩
    s.next k (fun _ hq => absurd hq (not_reg_fresh h (Nat.le_refl _))) (fun _ ho => nomatch hc.symm.trans ho)
    (Nat.lt_succ_self _) fun _ => ⟨hs, hd⟩

theorem inv_step (fx : Bool) (s : S) (h : Inv s) (l : Label) : Inv (step fx s l).1 := by
  have started : ∀ {a b : Bool}, (a && b) = true → a = true := fun h => (Bool.and_eq_true_iff.mp h).1
  -- the branches of `step` in the order they are written; those not named leave the state alone
  fun_cases step fx s l
  case case1 => exact inv_reject s h _ rfl rfl rfl
  case case2 p _ _ hp => exact inv_register s h p hp _ rfl rfl rfl
  case case3 c _ hk | case7 c _ hk | case14 c _ hk =>  -- frame delivered; remote close; silent read-loop exit
    exact inv_update s h c _ (started (started hk)) rfl rfl id rfl
  case case5 c _ hk =>  -- keepalive timeout
    exact inv_handleDisconnect fx _ (inv_close s h c (started hk)) c (closeConn_closed s c)
  case case9 p _ _ => exact inv_disconnectPeer s h p
  case case11 ps => exact inv_disconnectAll ps s h
  case case12 c _ hk =>  -- read-loop teardown
    exact inv_handleDisconnect fx _ (inv_update s h c { s.conn c with closed := true, readDone := true }
      (started (started hk)) rfl rfl nofun rfl) c (by rw [setConn_self])
  case case16 | case18 => exact inv_entries _ _ h
  all_goals exact h

end MM.C32

/-
  C22 (SOCKS5 UDP association): along any run the state is the initial one with another reply
  destination, which is an accepted source (`run_eq`); the owner and the source checks do not read
  it, and an accepted source is the owner (`accepts_owner`).
-/
import MM.Model.C22

namespace MM.C22

/-- Of a well-formed request `declared` keeps only a non-empty, specified IP: the case in which
    `accepts` compares the source with it. -/
def wfExpected (st : St) : Prop :=
  ∀ e, st.expected = some e → e.ip.length ≠ 0 ∧ C23.isUnspecified e.ip = false

theorem wfExpected_init (ctrl destIP : Option Bytes) (port : Nat)
    (hlen : ∀ ip, destIP = some ip → ip.length = 4 ∨ ip.length = 16) :
    wfExpected (initSt ctrl destIP port) := by
  intro e
  show declared destIP port = some e → _
  fun_cases declared destIP port
  case case2 ip hu =>
    rintro ⟨⟩
    refine ⟨?_, by simpa using hu⟩
    rcases hlen ip rfl with h | h <;> exact fun h0 => nomatch h.symm.trans h0
  all_goals nofun

/-- A datagram changes nothing but the reply destination, and that only to an accepted source. -/
theorem recv_fst (st : St) (src : Addr) (valid : Bool) :
    (recv st src valid).1 = st ∨
      accepts st src = true ∧ (recv st src valid).1 = { st with actual := some src } := by
  fun_cases recv st src valid
  case case1 hacc _ =>
    dsimp +zetaDelta only
    split
    · exact .inr ⟨hacc, rfl⟩
    · exact .inl rfl
  case case2 => exact .inl rfl

/-- Along a run only `actual` changes: it stays, or becomes a source the association accepts
    (`accepts` and `owner` do not read `actual`). -/
theorem run_eq (st : St) (dgs : List (Addr × Bool)) :
    ∃ a, run st dgs = { st with actual := a } ∧
      (a = st.actual ∨ ∃ src, a = some src ∧ accepts st src = true) := by
  induction dgs generalizing st with
  | nil => exact ⟨_, rfl, .inl rfl⟩
  | cons d ds ih =>
    obtain ⟨a, ha, h⟩ := ih (recv st d.1 d.2).1
    rcases recv_fst st d.1 d.2 with e | ⟨hacc, e⟩ <;> rw [e] at h
    · exact ⟨a, ha.trans (by rw [e]), h⟩
    · exact ⟨a, ha.trans (by rw [e]), .inr (h.elim (fun h => ⟨d.1, h, hacc⟩) id)⟩

theorem accepts_owner {st : St} (hwf : wfExpected st) {o : Bytes} (ho : owner st = some o)
    {src : Addr} (ha : accepts st src = true) : ipEqual src.ip o = true := by
  unfold accepts at ha
  rw [Bool.and_eq_true] at ha
  obtain ⟨h1, h2⟩ := ha
  -- the owner is the declared address: two branches of `owner` end here
  have hexp : st.expected.map (·.ip) = some o → ipEqual src.ip o = true := by
    intro ho
    cases he : st.expected with
    | none => rw [he] at ho; cases ho
    | some e =>
      rw [he] at ho h2
      obtain ⟨hne, hun⟩ := hwf e he
      cases ho
      simpa [hne, hun] using h2
  revert ho
  fun_cases owner st
  -- the control connection tells its peer `c`: the first check of `accepts`
  case case2 c hc hz =>
    rintro ⟨⟩
    rw [hc] at h1
    exact ((Bool.or_eq_true _ _).mp h1).resolve_left hz
  all_goals exact hexp

end MM.C22

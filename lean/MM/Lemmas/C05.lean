/-
  Per-kind facts for the C05 codecs: every message codec is `Lawful` with the minimum length of its
  decoder's pre-check and its allocation bound, by one composition term that follows the codec's
  definition in MM/Model/C05.lean.  To the constant `K` every list with a 1-byte count contributes
  `esz·255` (4080 = 16·255 for ids and strings, 10200 = 40·255 for routes).  The two clipping
  encoders (`preEnc`) and the hand-written `DecodeNodeInfo` are treated on their own.
-/
import MM.Lemmas.C05Alloc
import MM.Model.C05

namespace MM.C05

/-! ### address and prefix layouts chosen by a type byte -/

theorem addrStrict_lawful (t : Nat) : (addrStrict t).Lawful 1 1 0 :=
  ite_lawful (bytesN_lawful.mono (by decide)) (ite_lawful (bytesN_lawful.mono (by decide))
    (ite_lawful peek1_lawful ((failC_lawful (n := 1)).mono (by decide))))

theorem addrLoose_lawful (t : Nat) : (addrLoose t).Lawful 0 1 0 :=
  ite_lawful (bytesN_lawful.mono (by decide))
    (ite_lawful (bytesN_lawful.mono (by decide)) bytesN_lawful)

theorem advPrefix_lawful (t : Nat) : (advPrefix t).Lawful 0 1 0 :=
  ite_lawful (peek1_lawful.mono (by decide)) (ite_lawful fwdPrefix_lawful
    (ite_lawful (bytesN_lawful.mono (by decide)) (bytesN_lawful.mono (by decide))))

/-! ### kinds built by composition -/

theorem header_lawful : headerC.Lawful 14 0 0 :=
  seq_lawful be_lawful (seq_lawful be_lawful (seq_lawful be_lawful be_lawful))

theorem decodeHeader_enc (h : Nat × Nat × Nat × Nat) (rest : Bytes) (hwf : headerC.wf h = true) :
    decodeHeader (headerC.enc h ++ rest) =
      if h.2.2.1 > maxPayload then .error .tooLarge else .ok h := by
  unfold decodeHeader
  rw [if_neg (Nat.not_lt.mpr (List.length_append ▸ Nat.le_trans (header_lawful.minLen h hwf)
    (Nat.le_add_right ..))), header_lawful.sound _ rest hwf]

theorem decodeHeader_ok {buf : Bytes} {h : Nat × Nat × Nat × Nat} (hd : decodeHeader buf = .ok h) :
    h.2.2.1 ≤ maxPayload := by
  revert hd
  fun_cases decodeHeader buf
  -- case4 is the only branch that returns `.ok`
  case case4 hle => exact fun hd => Except.ok.inj hd ▸ Nat.le_of_not_gt hle
  all_goals exact nofun

theorem ids_lawful : ids.Lawful 1 1 (16 * 255) := listN1_lawful bytesN_lawful

theorem ids_enc_length {l : List Bytes} (h : ids.wf l = true) :
    (ids.enc l).length = 1 + 16 * l.length := by
  rw [listN_enc_length, encAll_length l fun x hx =>
    bytesN_wf.mp (List.all_eq_true.mp (listN_wf.mp h).2 x hx)]

theorem encData_lawful : (seq bool (lp 2)).Lawful 3 1 0 := seq_lawful bool_lawful lp_lawful

theorem peerHello_lawful : peerHelloC.Lawful 28 1 4080 :=
  seq_lawful be_lawful (seq_lawful bytesN_lawful (seq_lawful be_lawful
    (seq_lawful lp_lawful (listN1_lawful lp_lawful))))

theorem streamOpen_lawful : streamOpenC.Lawful 45 1 4080 :=
  (seq_lawful (seq_lawful be_lawful (dep_lawful be_lawful addrStrict_lawful))
    (seq_lawful be_lawful (seq_lawful be_lawful (seq_lawful ids_lawful bytesN_lawful)))).mono
    (by decide)

theorem streamOpenAck_lawful : streamOpenAckC.Lawful 43 1 0 :=
  seq_lawful (seq_lawful be_lawful (dep_lawful be_lawful addrLoose_lawful))
    (seq_lawful be_lawful bytesN_lawful)

theorem streamReset_lawful : streamResetC.Lawful 2 0 0 := be_lawful
theorem keepalive_lawful : keepaliveC.Lawful 8 0 0 := be_lawful
theorem close_lawful : closeC.Lawful 1 0 0 := be_lawful

theorem advRoute_lawful : advRouteC.Lawful 4 1 0 :=
  seq_lawful (dep_lawful (seq_lawful be_lawful be_lawful) fun p => advPrefix_lawful p.1) be_lawful

theorem advRoute_sound : advRouteC.Sound := advRoute_lawful.sound

theorem wdRoute_lawful : wdRouteC.Lawful 4 1 0 :=
  seq_lawful (dep_lawful (seq_lawful be_lawful be_lawful) fun _ =>
    bytesN_lawful.mono ⟨Nat.zero_le _, Nat.le_refl _, Nat.le_refl _⟩) be_lawful

theorem encPath_lawful : encPathC.Lawful 3 2 4080 :=
  refine_lawful (A2 := 1) (Kn := 4080) encData_lawful fun x => by
    have := (ids_lawful.alloc x.2).2
    simp only [seq_enc_length, bool_enc_length, lp_enc_length]
    split <;> omega

theorem encPath_sound : encPathC.Sound := encPath_lawful.sound

theorem routeAdvertise_lawful : routeAdvertiseC.Lawful 28 2 18360 :=
  (seq_lawful bytesN_lawful (seq_lawful lp_lawful (seq_lawful be_lawful
    (seq_lawful (listN1_lawful advRoute_lawful) (seq_lawful encPath_lawful ids_lawful))))).mono
    (by decide)

theorem routeWithdraw_lawful : routeWithdrawC.Lawful 26 1 14280 :=
  seq_lawful bytesN_lawful (seq_lawful be_lawful
    (seq_lawful (listN1_lawful wdRoute_lawful) ids_lawful))

theorem controlRequest_lawful : controlRequestC.Lawful 30 1 4080 :=
  seq_lawful be_lawful (seq_lawful be_lawful (seq_lawful bytesN_lawful
    (seq_lawful ids_lawful lp_lawful)))

theorem udpDatagram_lawful : udpDatagramC.Lawful 6 1 0 :=
  seq_lawful (dep_lawful be_lawful addrStrict_lawful) (seq_lawful be_lawful lp_lawful)

theorem icmpOpen_lawful : icmpOpenC.Lawful 43 1 4080 :=
  seq_lawful be_lawful (seq_lawful lp_lawful (seq_lawful be_lawful
    (seq_lawful ids_lawful bytesN_lawful)))

theorem icmpOpenAck_lawful : icmpOpenAckC.Lawful 40 1 0 := seq_lawful be_lawful bytesN_lawful

theorem icmpEcho_lawful : icmpEchoC.Lawful 8 1 0 :=
  seq_lawful be_lawful (seq_lawful be_lawful (seq_lawful bool_lawful
    (seq_lawful lp_lawful lp_lawful)))

theorem sleep_lawful : sleepC.Lawful cmdMinLen 1 4080 :=
  seq_lawful bytesN_lawful (seq_lawful be_lawful (seq_lawful be_lawful
    (seq_lawful bytesN_lawful ids_lawful)))

theorem niHead_lawful : niHeadC.Lawful 14 1 4080 :=
  seq_lawful lp_lawful (seq_lawful lp_lawful (seq_lawful lp_lawful (seq_lawful lp_lawful
    (seq_lawful lp_lawful (seq_lawful be_lawful (listN1_lawful lp_lawful))))))

theorem peer_lawful : peerC.Lawful 26 1 0 :=
  seq_lawful bytesN_lawful (seq_lawful lp_lawful (seq_lawful be_lawful bool_lawful))

theorem fl_sound : flC.Sound := (seq_lawful lp_lawful lp_lawful).sound

/-! ### the two clipping encoders: what parses has a short enough message, so clipping is a no-op -/

theorem streamOpenErrBody_lawful : (seq u64 (seq u16 str)).Lawful 11 1 0 :=
  seq_lawful be_lawful (seq_lawful be_lawful lp_lawful)

theorem streamOpenErr_decwf : streamOpenErrC.DecWF := by
  intro bs a rest h
  have hw := streamOpenErrBody_lawful.decwf bs a rest h
  have hs : a.2.2.length < 256 := lp_wf.mp (seq_wf.mp (seq_wf.mp hw).2).2
  refine preEnc_wf.mpr ⟨hw, ?_⟩
  rw [List.take_of_length_le (Nat.le_of_lt_succ hs)]

theorem controlResponseBody_lawful : (seq u64 (seq u8 (seq bool (lp 2)))).Lawful 12 1 0 :=
  seq_lawful be_lawful (seq_lawful be_lawful (seq_lawful bool_lawful lp_lawful))

/-- `DecodeControlResponse` accepts up to 65535 data bytes while the encoder clips at
    MaxPayloadSize-12, so "what parses is well-formed" holds for inputs up to the frame size. -/
theorem controlResponse_decwf_bounded (bs : Bytes) (a) (rest : Bytes) (hlen : bs.length ≤ maxPayload)
    (h : controlResponseC.dec bs = some (a, rest)) : controlResponseC.wf a = true := by
  have hw := controlResponseBody_lawful.decwf bs a rest h
  have hl := controlResponseBody_lawful.lenExact bs a rest h
  simp only [seq_enc_length, be_enc_length, bool_enc_length, lp_enc_length] at hl
  refine preEnc_wf.mpr ⟨hw, ?_⟩
  rw [List.take_of_length_le (by omega)]

/-! ### NodeInfo -/

/-- head, peers and tail strings each allocate at most the bytes they read (a factor 1 would do);
    7280 = 4080 (IP list) + 48·50 (peers) + 800 (listeners and shells) -/
theorem nodeInfoAlloc_le (buf : Bytes) : nodeInfoAlloc buf ≤ 3 * buf.length + 7280 := by
  unfold nodeInfoAlloc
  split
  · exact Nat.zero_le _
  have hH := Codec.allocBound_iff.mp niHead_lawful.alloc buf
  -- what follows the head is charged to the bytes the head leaves,
  refine Nat.le_trans (Nat.add_le_add_left (?_ : _ ≤ restLen (niHeadC.dec buf) + 3200) _) (by omega)
  rcases niHeadC.dec buf with _ | ⟨x, r0⟩ <;> simp only [restLen]
  · exact Nat.zero_le _
  rcases hu : u8.dec r0 with _ | ⟨pc, r1⟩ <;> simp only []
  · exact Nat.zero_le _
  -- what follows the peers to the bytes the peers leave
  have h1 := be_lawful.shrinks _ _ _ hu
  have hp : sizeofPeerInfo * min pc maxPeers ≤ 48 * 50 := Nat.mul_le_mul_left 48 (Nat.min_le_right ..)
  have hR := repAlloc_bound peer_lawful.alloc (min pc maxPeers) r1
  refine Nat.le_trans (Nat.add_le_add_left
    (?_ : _ ≤ restLen (repDec peerC (min pc maxPeers) r1) + 800) _) (by omega)
  rcases repDec peerC (min pc maxPeers) r1 with _ | ⟨ps, r2⟩ <;> simp only [restLen]
  · exact Nat.zero_le _
  rcases hk : key32.dec r2 with _ | ⟨k, r3⟩ <;> simp only []
  · exact Nat.zero_le _
  exact Nat.le_trans (Nat.add_le_add_left (bytesN_lawful.shrinks _ _ _ hk) _) (Nat.le_of_eq (Nat.add_comm ..))

theorem encInfo_lawful : encInfoC.Lawful 3 4 7280 :=
  refine_lawful (A2 := 3) (Kn := 7280) encData_lawful fun x => by
    have := nodeInfoAlloc_le x.2
    simp only [seq_enc_length, bool_enc_length, lp_enc_length]
    split <;> omega

theorem nodeInfoAdvertise_lawful : nodeInfoAdvertiseC.Lawful 28 4 11360 :=
  seq_lawful bytesN_lawful (seq_lawful be_lawful (seq_lawful encInfo_lawful ids_lawful))

end MM.C05

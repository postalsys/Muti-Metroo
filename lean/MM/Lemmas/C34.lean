import MM.Model.C34

/-!
  A writer that only writes temporary names and renames them (`Op.tmpOnly`) can leave, as far as
  the four final names are concerned, only the states at its call boundaries (`crash_obs`);
  recovery reads only the final names.  In a `good` state a start loads the final names that exist
  and creates those that are missing (`start_good`); every writer renames complete files into
  place, the private key before the public one, so every crash state of every action is good again
  and keeps the identity files it found (`action_crash`).
-/
namespace MM.C34

theorem applyAll_mem_prefixStates : ∀ (ops : List Op) (s : FS), applyAll s ops ∈ prefixStates s ops
  | [], _ => .head _
  | _ :: r, _ => .tail _ (applyAll_mem_prefixStates r _)

theorem mem_prefixStates_append {t : FS} {b : List Op} : ∀ {a : List Op} {s : FS},
    t ∈ prefixStates s (a ++ b) → t ∈ prefixStates s a ∨ t ∈ prefixStates (applyAll s a) b
  | [], _, h => .inr h
  | _ :: a, _, .head _ => .inl (.head _)
  | _ :: a, _, .tail _ h => (mem_prefixStates_append (a := a) h).imp_left (.tail _)

theorem during_obs (s : FS) (op : Op) (h : op.tmpOnly = true) :
    ∀ s' ∈ during s op, s'.obs = s.obs := by
  intro s' hs'
  cases op with
  | writeFile f v len =>
    obtain ⟨k, -, rfl⟩ := List.mem_map.mp hs'
    cases f <;> simp [Op.tmpOnly, FS.set, FS.obs] at h ⊢
  | _ => cases hs'

theorem crash_obs (ops : List Op) : ∀ (s s' : FS), ops.all Op.tmpOnly = true →
    s' ∈ crashStates s ops → ∃ t ∈ prefixStates s ops, s'.obs = t.obs := by
  induction ops with
  | nil =>
    intro s s' _ h
    rw [crashStates, List.mem_singleton] at h
    exact ⟨s, .head _, by rw [h]⟩
  | cons op r ih =>
    intro s s' hall h
    rw [List.all_cons, Bool.and_eq_true] at hall
    rw [crashStates, List.mem_append, List.mem_cons] at h
    rcases h with (h | h) | h
    · exact ⟨s, .head _, by rw [h]⟩
    · exact ⟨s, .head _, during_obs s op hall.1 s' h⟩
    · obtain ⟨t, ht, e⟩ := ih (apply s op) s' hall.2 h
      exact ⟨t, .tail _ ht, e⟩

theorem good_congr (d : Nat → Nat) {s t : FS} (h : s.obs = t.obs) : good d s = good d t := by
  simp only [FS.obs, Obs.mk.injEq] at h
  simp only [good, h]

theorem loadSleep_congr {s t : FS} (h : s.sl = t.sl) : loadSleep s = loadSleep t := by
  rw [loadSleep, h, loadSleep]

theorem start_congr (d : Nat → Nat) {s t : FS} (h : s.obs = t.obs) (fi fk : Nat) :
    start d s fi fk = start d t fi fk := by
  simp only [FS.obs, Obs.mk.injEq] at h
  simp only [start, startId, startKey, loadSleep, h]

theorem good_iff {d : Nat → Nat} {s : FS} : good d s = true ↔
    (s.id = none ∨ ∃ v, s.id = some (.whole v)) ∧
    (s.key = none ∧ s.pub = none ∨
      ∃ k, s.key = some (.whole k) ∧ (s.pub = none ∨ s.pub = some (.whole (d k)))) ∧
    (s.sl = none ∨ ∃ w, s.sl = some (.whole w)) := by
  simp only [good, Bool.and_eq_true, and_assoc]
  refine and_congr ?_ (and_congr ?_ ?_) <;> split <;> simp_all

/-- The second half of `Keypair.Store`; a start repeats it when only the public key is missing. -/
def storePubOps (d : Nat → Nat) (k : Nat) : List Op :=
  [.writeFile .pubT (d k) keyLen, .rename .pubT .pub]

theorem start_good {d : Nat → Nat} {s : FS} (hg : good d s = true) (fi fk : Nat) : ∃ i k o1 o2,
    start d s fi fk = (some ⟨i, k, d k, loadSleep s⟩, o1 ++ o2) ∧
    (s.id = none ∧ i = fi ∧ o1 = storeIdOps fi ∨ s.id = some (.whole i) ∧ o1 = []) ∧
    (s.key = none ∧ k = fk ∧ o2 = storeKeyOps d fk ∨
      s.key = some (.whole k) ∧
        (s.pub = none ∧ o2 = storePubOps d k ∨ s.pub = some (.whole (d k)) ∧ o2 = [])) := by
  obtain ⟨hid, hkey, -⟩ := good_iff.mp hg
  -- the identity half; each case of the keypair half, also decided on `s`, completes it
  obtain ⟨i, o1, e1, h1⟩ : ∃ i o1, startId s fi = (some i, o1) ∧
      (s.id = none ∧ i = fi ∧ o1 = storeIdOps fi ∨ s.id = some (.whole i) ∧ o1 = []) := by
    rcases hid with h | ⟨v, h⟩
    · exact ⟨fi, _, by simp only [startId, h], .inl ⟨h, rfl, rfl⟩⟩
    · exact ⟨v, _, by simp only [startId, h, parseHex], .inr ⟨h, rfl⟩⟩
  rcases hkey with ⟨hk, -⟩ | ⟨k, hk, hp | hp⟩
  · exact ⟨i, fk, o1, _, by simp only [start, e1, startKey, hk], h1, .inl ⟨hk, rfl, rfl⟩⟩
  · exact ⟨i, k, o1, _, by simp only [start, e1, startKey, hk, hp, parseHex, storePubOps], h1,
      .inr ⟨hk, .inl ⟨hp, rfl⟩⟩⟩
  · exact ⟨i, k, o1, _, by simp only [start, e1, startKey, hk, hp, parseHex, if_true], h1,
      .inr ⟨hk, .inr ⟨hp, rfl⟩⟩⟩

theorem start_loads (d : Nat → Nat) (s : FS) (hg : good d s = true) (fi fk : Nat) :
    ∃ r, (start d s fi fk).1 = some r ∧ (∀ v, s.id = some (.whole v) → r.id = v) ∧
      (∀ k, s.key = some (.whole k) → r.priv = k) := by
  obtain ⟨i, k, _, _, e, hi, hk⟩ := start_good hg fi fk
  refine ⟨_, by rw [e], fun v hv => ?_, fun k' hk' => ?_⟩
  · rcases hi with ⟨h, -⟩ | ⟨h, -⟩
    · cases hv.symm.trans h
    · cases hv.symm.trans h; rfl
  · rcases hk with ⟨h, -⟩ | ⟨h, -⟩
    · cases hk'.symm.trans h
    · cases hk'.symm.trans h; rfl

theorem startKey_pub (d : Nat → Nat) (s : FS) (fk k p : Nat) :
    (startKey d s fk).1 = some (k, p) → p = d k := by
  fun_cases startKey d s fk <;> simp_all

theorem persistOps_tmpOnly (s : FS) (w : Nat) : (persistOps s w).all Op.tmpOnly = true := by
  unfold persistOps
  split <;> rfl

theorem actionOps_tmpOnly {d : Nat → Nat} {s : FS} (hg : good d s = true) (a : Action) :
    (actionOps d s a).all Op.tmpOnly = true := by
  cases a with
  | start fi fk =>
    obtain ⟨_, _, _, _, e, hi, hk⟩ := start_good hg fi fk
    simp only [actionOps, e]
    rcases hi with ⟨-, -, rfl⟩ | ⟨-, rfl⟩ <;> rcases hk with ⟨-, -, rfl⟩ | ⟨-, ⟨-, rfl⟩ | ⟨-, rfl⟩⟩ <;> rfl
  | persist w => exact persistOps_tmpOnly s w
  | storeId v => rfl

/- One lemma per writer.  A state that differs from a good one only in the directory flag or in
   temporary names is good by unfolding: there `hg` proves `good d t`. -/

theorem prefix_storeId {d : Nat → Nat} {s : FS} (hg : good d s = true) (v : Nat) :
    ∀ t ∈ prefixStates s (storeIdOps v), good d t = true ∧ t.key = s.key ∧ t.sl = s.sl := by
  obtain ⟨-, hkey, hsl⟩ := good_iff.mp hg
  intro t ht
  simp only [storeIdOps, prefixStates, List.mem_cons, List.not_mem_nil, or_false, apply, FS.set, FS.get] at ht
  rcases ht with rfl | rfl | rfl | rfl
  · exact ⟨hg, rfl, rfl⟩
  · exact ⟨hg, rfl, rfl⟩
  · exact ⟨hg, rfl, rfl⟩
  · exact ⟨good_iff.mpr ⟨.inr ⟨v, rfl⟩, hkey, hsl⟩, rfl, rfl⟩

theorem prefix_storeKey {d : Nat → Nat} {s : FS} (hg : good d s = true) (hk : s.key = none) (k : Nat) :
    ∀ t ∈ prefixStates s (storeKeyOps d k), good d t = true ∧ t.id = s.id ∧ t.sl = s.sl := by
  obtain ⟨hid, hkey, hsl⟩ := good_iff.mp hg
  have hp : s.pub = none := by
    rcases hkey with ⟨-, hp⟩ | ⟨k', hk', -⟩
    · exact hp
    · rw [hk] at hk'; cases hk'
  intro t ht
  simp only [storeKeyOps, prefixStates, List.mem_cons, List.not_mem_nil, or_false, apply, FS.set, FS.get] at ht
  rcases ht with rfl | rfl | rfl | rfl | rfl | rfl
  · exact ⟨hg, rfl, rfl⟩
  · exact ⟨hg, rfl, rfl⟩
  · exact ⟨hg, rfl, rfl⟩
  · exact ⟨good_iff.mpr ⟨hid, .inr ⟨k, rfl, .inl hp⟩, hsl⟩, rfl, rfl⟩
  · exact ⟨good_iff.mpr ⟨hid, .inr ⟨k, rfl, .inl hp⟩, hsl⟩, rfl, rfl⟩
  · exact ⟨good_iff.mpr ⟨hid, .inr ⟨k, rfl, .inr rfl⟩, hsl⟩, rfl, rfl⟩

theorem prefix_storePub {d : Nat → Nat} {s : FS} (hg : good d s = true) {k : Nat}
    (hk : s.key = some (.whole k)) :
    ∀ t ∈ prefixStates s (storePubOps d k),
      good d t = true ∧ t.id = s.id ∧ t.key = s.key ∧ t.sl = s.sl := by
  obtain ⟨hid, -, hsl⟩ := good_iff.mp hg
  intro t ht
  simp only [storePubOps, prefixStates, List.mem_cons, List.not_mem_nil, or_false, apply, FS.set, FS.get] at ht
  rcases ht with rfl | rfl | rfl
  · exact ⟨hg, rfl, rfl, rfl⟩
  · exact ⟨hg, rfl, rfl, rfl⟩
  · exact ⟨good_iff.mpr ⟨hid, .inr ⟨k, hk, .inr rfl⟩, hsl⟩, rfl, rfl, rfl⟩

theorem prefix_persist (s : FS) (w : Nat) : ∀ t ∈ prefixStates s (persistOps s w),
    t.id = s.id ∧ t.key = s.key ∧ t.pub = s.pub ∧ (t.sl = s.sl ∨ t.sl = some (.whole w)) := by
  intro t ht
  unfold persistOps at ht
  split at ht
  · simp only [prefixStates, List.mem_cons, List.not_mem_nil, or_false, apply, FS.set, FS.get] at ht
    rcases ht with rfl | rfl | rfl
    · exact ⟨rfl, rfl, rfl, .inl rfl⟩
    · exact ⟨rfl, rfl, rfl, .inl rfl⟩
    · exact ⟨rfl, rfl, rfl, .inr rfl⟩
  · rw [List.mem_singleton.mp ht]
    exact ⟨rfl, rfl, rfl, .inl rfl⟩

theorem action_crash {d : Nat → Nat} {s : FS} (hg : good d s = true) (a : Action) :
    ∀ s' ∈ crashStates s (actionOps d s a), good d s' = true ∧
      (s.id ≠ none → (∀ v, a ≠ .storeId v) → s'.id = s.id) ∧ (s.key ≠ none → s'.key = s.key) ∧
      ((∀ w, a ≠ .persist w) → s'.sl = s.sl) := by
  intro s' hs'
  -- on the final names `s'` is a state `t` at a call boundary
  obtain ⟨t, ht, ho⟩ := crash_obs _ s s' (actionOps_tmpOnly hg a) hs'
  rw [good_congr d ho, show s'.id = t.id from congrArg Obs.id ho, show s'.key = t.key from congrArg Obs.key ho,
    show s'.sl = t.sl from congrArg Obs.sl ho]
  cases a with
  | start fi fk =>
    obtain ⟨i, k, o1, o2, e, hi, hk⟩ := start_good hg fi fk
    simp only [actionOps, e] at ht
    -- the identity calls come first and leave the key files alone
    have h1 : ∀ t ∈ prefixStates s o1, good d t = true ∧ (s.id ≠ none → t.id = s.id) ∧
        t.key = s.key ∧ t.sl = s.sl := by
      rcases hi with ⟨hid, -, rfl⟩ | ⟨-, rfl⟩
      · exact fun t ht => ⟨(prefix_storeId hg fi t ht).1, fun h => absurd hid h, (prefix_storeId hg fi t ht).2⟩
      · intro t ht
        rw [List.mem_singleton.mp ht]
        exact ⟨hg, fun _ => rfl, rfl, rfl⟩
    rcases mem_prefixStates_append ht with ht | ht
    · obtain ⟨hgt, hid, hkey, hsl⟩ := h1 t ht
      exact ⟨hgt, fun h _ => hid h, fun _ => hkey, fun _ => hsl⟩
    · obtain ⟨hg1, hid1, hkey1, hsl1⟩ := h1 _ (applyAll_mem_prefixStates o1 s)
      rcases hk with ⟨hk, -, rfl⟩ | ⟨hk, ⟨-, rfl⟩ | ⟨-, rfl⟩⟩
      · obtain ⟨hgt, hid, hsl⟩ := prefix_storeKey hg1 (hkey1.trans hk) fk t ht
        exact ⟨hgt, fun h _ => hid.trans (hid1 h), fun h => absurd hk h, fun _ => hsl.trans hsl1⟩
      · obtain ⟨hgt, hid, hkey, hsl⟩ := prefix_storePub hg1 (hkey1.trans hk) t ht
        exact ⟨hgt, fun h _ => hid.trans (hid1 h), fun _ => hkey.trans hkey1, fun _ => hsl.trans hsl1⟩
      · rw [List.mem_singleton.mp ht]
        exact ⟨hg1, fun h _ => hid1 h, fun _ => hkey1, fun _ => hsl1⟩
  | persist w =>
    obtain ⟨h1, h2, h3, h4⟩ := prefix_persist s w t ht
    obtain ⟨hid, hkey, hsl⟩ := good_iff.mp hg
    refine ⟨good_iff.mpr ?_, fun _ _ => h1, fun _ => h2, fun h => absurd rfl (h w)⟩
    rw [h1, h2, h3]
    exact ⟨hid, hkey, h4.elim (fun h => h ▸ hsl) fun h => .inr ⟨w, h⟩⟩
  | storeId v =>
    obtain ⟨hgt, hkey, hsl⟩ := prefix_storeId hg v t ht
    exact ⟨hgt, fun _ h => absurd rfl (h v), fun _ => hkey, fun _ => hsl⟩

/-- The inductive step of the invariant. -/
theorem good_preserved (d : Nat → Nat) (s : FS) (hg : good d s = true) (a : Action) :
    ∀ s' ∈ crashStates s (actionOps d s a), good d s' = true :=
  fun s' hs' => (action_crash hg a s' hs').1

end MM.C34

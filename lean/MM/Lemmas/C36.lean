/-
  C36 (embedded configuration): what the primitives `toInt64`, `allocOK`, `readAt` do on the
  arguments the readers give them, and the two facts every property theorem starts from —
  `trailer_len_ok` (a length field that passed the size check is harmless) and `embedded_file`
  (what `appendConfig` leaves at the end of the file).
-/
import MM.Model.C36

namespace MM.C36

theorem magic_length : magic.length = 8 := by decide

theorem xorFrom_length (i : Nat) (bs : Bytes) : (xorFrom i bs).length = bs.length := by
  induction bs generalizing i with
  | nil => rfl
  | cons b bs ih => simp [xorFrom, ih]

@[simp] theorem xor_length (bs : Bytes) : (xor bs).length = bs.length := xorFrom_length 0 bs

theorem xorFrom_xorFrom (i : Nat) (bs : Bytes) : xorFrom i (xorFrom i bs) = bs := by
  induction bs generalizing i with
  | nil => rfl
  | cons b bs ih =>
    simp only [xorFrom, ih]
    rw [UInt8.xor_assoc, UInt8.xor_self, UInt8.xor_zero]

theorem toInt64_of_lt {n : Nat} (h : n < 2^63) : toInt64 n = (n : Int) := by
  rw [toInt64, Nat.mod_eq_of_lt (by omega), if_pos h]

theorem allocOK_of_le {n : Int} (h0 : 0 ≤ n) (h : n ≤ maxAlloc) : allocOK n = true :=
  decide_eq_true ⟨h0, h⟩

theorem readAt_eq {file : Bytes} {off n : Nat} (h : off + n ≤ file.length) :
    readAt file (off : Int) n = some ((file.drop off).take n) := by
  rw [readAt, if_pos (by omega), Int.toNat_natCast]

theorem readAt_length {file : Bytes} {off : Int} {n : Nat} {bs : Bytes}
    (h : readAt file off n = some bs) : bs.length = n := by
  obtain ⟨hc, ⟨⟩⟩ := Option.ite_none_right_eq_some.1 h
  simp only [List.length_take, List.length_drop]
  omega

theorem readAt_zero {file : Bytes} {n : Nat} (h : n ≤ file.length) :
    readAt file 0 n = some (file.take n) := by
  simpa using readAt_eq (file := file) (off := 0) (n := n) (by omega)

theorem readAt_footer {file : Bytes} (h : ¬ (file.length : Int) < 16) :
    readAt file ((file.length : Int) - 16) 16 = some (file.drop (file.length - 16)) := by
  have e : ((file.length : Int) - 16) = ((file.length - 16 : Nat) : Int) := by omega
  rw [e, readAt_eq (by omega)]
  congr 1
  apply List.take_of_length_le
  simp only [List.length_drop]; omega

theorem footerMagic_embedded (n : Nat) : footerMagic (leN 8 n ++ magic) = magic := by
  unfold footerMagic
  exact List.drop_left' (leN_length 8 n)

theorem footerLen_embedded {n : Nat} (h : n < 2^64) : footerLen (leN 8 n ++ magic) = n := by
  unfold footerLen
  rw [List.take_left' (leN_length 8 n)]
  exact unle_leN_of_lt (by omega)

/-- `h16` and `hn` (like the last two conjuncts of `embedded_file`) have the form of the readers' own
    branch conditions, negated, so that a case analysis along a reader hands them over as they are. -/
theorem trailer_len_ok {file : Bytes} {n : Nat} (hsz : (file.length : Int) ≤ maxAlloc)
    (h16 : ¬ (file.length : Int) < 16) (hn : ¬ n > ((file.length : Int) - 16).toNat) :
    toInt64 n = n ∧ allocOK (n : Int) = true ∧
    readAt file ((file.length : Int) - 16 - n) n = some ((file.drop (file.length - 16 - n)).take n) := by
  have hmax : maxAlloc = 2^48 := rfl
  refine ⟨toInt64_of_lt (by omega), allocOK_of_le (by omega) (by omega), ?_⟩
  have e : (file.length : Int) - 16 - n = ((file.length - 16 - n : Nat) : Int) := by omega
  rw [e, readAt_eq (by omega)]

theorem appendConfig_ok {src cfg out : Bytes} (h : appendConfig src cfg = .ok out) :
    out = src ++ xor cfg ++ (leN 8 cfg.length ++ magic) := by
  unfold appendConfig at h
  split at h
  · cases h
  · injection h with h; simp [← h]

theorem embedded_file {src cfg out : Bytes} (h : appendConfig src cfg = .ok out)
    (hsz : (out.length : Int) ≤ maxAlloc) :
    out = src ++ xor cfg ++ (leN 8 cfg.length ++ magic) ∧
    out.length = src.length + cfg.length + 16 ∧
    readAt out ((out.length : Int) - 16) 16 = some (leN 8 cfg.length ++ magic) ∧
    footerLen (leN 8 cfg.length ++ magic) = cfg.length ∧
    ¬ (out.length : Int) < 16 ∧ ¬ cfg.length > ((out.length : Int) - 16).toNat := by
  have hout := appendConfig_ok h
  have hlen : out.length = src.length + cfg.length + 16 := by
    rw [hout]; simp [magic_length]; omega
  have hmax : maxAlloc = 2^48 := rfl
  have h16 : ¬ (out.length : Int) < 16 := by omega
  refine ⟨hout, hlen, ?_, footerLen_embedded (by omega), h16, by omega⟩
  have hpre : out.length - 16 = (src ++ xor cfg).length := by
    rw [hlen]; simp
  rw [readAt_footer h16, hpre, hout, List.drop_left]

end MM.C36

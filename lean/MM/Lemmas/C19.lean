/-
  Helper lemmas for C19: `Contains` depends only on the key, list algebra of the allow list and
  the dynamic-route map, and the invariant tying them together under any operation sequence.
-/
import MM.Model.C19
namespace MM.C19

theorem norm_idem (n : Net) : n.norm.norm = n.norm := by
  unfold Net.norm
  by_cases h : C23.is4in6 n.ip = true
  · rw [if_pos h]
    -- the 4-byte form is not IPv4-mapped again
    have hl : n.ip.length = 16 := by
      unfold C23.is4in6 at h
      simp only [Bool.and_eq_true, beq_iff_eq] at h
      exact h.1.1.1
    have h2 : C23.is4in6 (n.ip.drop 12) = false := by
      unfold C23.is4in6
      rw [List.length_drop, hl]
      rfl
    rw [if_neg (by rw [h2]; exact Bool.false_ne_true)]
  · rw [if_neg h, if_neg h]

theorem key_idem (n : Net) : n.key.key = n.key := norm_idem n

/-- `Contains` only depends on the key (`String()`) of the network. -/
theorem contains_key (n : Net) (ip : Bytes) : n.key.contains ip = n.contains ip := by
  unfold Net.contains Net.key
  rw [norm_idem]

theorem contains_of_key_eq {a b : Net} (h : a.key = b.key) (ip : Bytes) : a.contains ip = b.contains ip := by
  rw [← contains_key a, ← contains_key b, h]

def keys (dyn : List (Net × Net × Nat)) : List Net := dyn.map (·.1)

theorem dynHas_iff {dyn : List (Net × Net × Nat)} {k : Net} : dynHas dyn k = true ↔ k ∈ keys dyn := by
  unfold dynHas keys
  rw [List.any_eq_true, List.mem_map]
  simp only [beq_iff_eq]

theorem keys_dynSet (dyn : List (Net × Net × Nat)) (k n : Net) (m : Nat) :
    keys (dynSet dyn k n m) = if k ∈ keys dyn then keys dyn else keys dyn ++ [k] := by
  fun_cases dynSet dyn k n m with
  | case1 h =>
    rw [if_pos (dynHas_iff.mp h)]
    unfold keys
    rw [List.map_map]
    refine List.map_congr_left fun e _ => ?_
    show (if (e.1 == k) = true then (k, n, m) else e).1 = e.1
    rw [apply_ite Prod.fst, ite_eq_right_iff]
    exact fun h => (beq_iff_eq.mp h).symm
  | case2 h =>
    rw [if_neg (mt dynHas_iff.mpr h)]
    exact List.map_append

theorem mem_dynSet {dyn : List (Net × Net × Nat)} {k n : Net} {m : Nat} {e : Net × Net × Nat}
    (he : e ∈ dynSet dyn k n m) : e = (k, n, m) ∨ e ∈ dyn := by
  revert he
  fun_cases dynSet dyn k n m with
  | case1 _ =>
    intro he
    obtain ⟨e0, he0, rfl⟩ := List.mem_map.mp he
    split
    · exact Or.inl rfl
    · exact Or.inr he0
  | case2 _ => exact fun he => (List.mem_append.mp he).symm.imp_left List.mem_singleton.mp

theorem keys_filter (dyn : List (Net × Net × Nat)) (k : Net) :
    keys (dyn.filter (fun e => !(e.1 == k))) = (keys dyn).filter (fun x => !(x == k)) := by
  unfold keys
  rw [List.filter_map]
  rfl

theorem keys_addAllowed (rs : List Net) (n : Net) :
    (addAllowed rs n).map Net.key =
      if n.key ∈ rs.map Net.key then rs.map Net.key else rs.map Net.key ++ [n.key] := by
  unfold addAllowed
  simp only [List.any_eq_true, beq_iff_eq, List.mem_map, apply_ite (List.map Net.key),
    List.map_append, List.map_cons, List.map_nil]

theorem removeAllowed_eq (rs : List Net) (n : Net) :
    removeAllowed rs n = rs.eraseP (fun r => r.key == n.key) := by
  induction rs with
  | nil => rfl
  | cons r rs ih => rw [removeAllowed, ih, List.eraseP_cons, cond_eq_ite]

theorem removeAllowed_append_right {base : List Net} (tail : List Net) (n : Net)
    (h : ∀ b ∈ base, b.key ≠ n.key) : removeAllowed (base ++ tail) n = base ++ removeAllowed tail n := by
  rw [removeAllowed_eq, removeAllowed_eq,
    List.eraseP_append_right _ (fun b hb => by simpa using h b hb)]

theorem removeAllowed_keys (tail : List Net) (n : Net) :
    (removeAllowed tail n).map Net.key = (tail.map Net.key).erase n.key := by
  rw [removeAllowed_eq, List.erase_eq_eraseP', List.eraseP_map]
  rfl

/-- Invariant tying the handler's allow list to the manager's dynamic routes. `base` = the
    networks the handler was created with (`cfg.Exit.Routes` if the exit is enabled, else none).
    An agent without a handler counts as one with an empty allow list (as `ensureExitHandler`
    creates it). -/
structure Inv (base : List Net) (s : St) : Prop where
  nodup : (keys s.dyn).Nodup
  disj : ∀ k ∈ keys s.dyn, k ∉ s.cfgKeys
  baseCfg : ∀ k ∈ base.map Net.key, k ∈ s.cfgKeys
  keyed : ∀ e ∈ s.dyn, e.1 = e.2.1.key
  mirror : (s.allowed.getD []).map Net.key = base.map Net.key ++ keys s.dyn

def baseOf (exitEnabled : Bool) (cfgNets : List Net) : List Net := if exitEnabled then cfgNets else []

theorem inv_init (exitEnabled : Bool) (cfgNets : List Net) (pats : List Bytes) :
    Inv (baseOf exitEnabled cfgNets) (init exitEnabled cfgNets pats) := by
  unfold init baseOf
  refine ⟨List.nodup_nil, nofun, fun k hk => ?_, nofun, ?_⟩
  · cases exitEnabled with
    | false => cases hk
    | true => exact hk
  · cases exitEnabled <;> simp [keys]

theorem cfgKeys_add (s : St) (n : Net) (m : Nat) : (add s n m).1.cfgKeys = s.cfgKeys := by
  fun_cases add s n m <;> rfl

theorem cfgKeys_remove (s : St) (n : Net) : (remove s n).1.cfgKeys = s.cfgKeys := by
  fun_cases remove s n <;> rfl

theorem inv_add {base : List Net} {s : St} (h : Inv base s) (n : Net) (m : Nat) : Inv base (add s n m).1 := by
  fun_cases add s n m with
  | case1 => exact h
  | case2 _ hcond =>
  -- accepted: the key is not that of a config-only route, and no dynamic key is a config key at all
  have hcfg : n.key ∉ s.cfgKeys := fun hc =>
    hcond ⟨by simpa using hc, fun hh => h.disj _ (dynHas_iff.mp hh) hc⟩
  have hbase : n.key ∉ base.map Net.key := fun hm => hcfg (h.baseCfg _ hm)
  have hkeys := keys_dynSet s.dyn n.key n m
  exact { h with
    nodup := by
      rw [hkeys]
      split
      · exact h.nodup
      · next hmem => exact List.perm_append_comm.nodup_iff.mpr (List.nodup_cons.mpr ⟨hmem, h.nodup⟩)
    disj := fun k hk => by
      rw [hkeys] at hk
      split at hk
      · exact h.disj k hk
      · exact (List.mem_append.mp hk).elim (h.disj k) fun hk => List.mem_singleton.mp hk ▸ hcfg
    keyed := fun e he => (mem_dynSet he).elim (fun h => by rw [h]) (h.keyed e)
    mirror := by
      -- no base key: new to the allow list exactly when new to the dynamic keys
      rw [Option.getD_some, keys_addAllowed, h.mirror, hkeys, apply_ite (base.map Net.key ++ ·),
        List.append_assoc]
      exact ite_cond_congr (propext (List.mem_append.trans (or_iff_right hbase))) }

theorem inv_remove {base : List Net} {s : St} (h : Inv base s) (n : Net) : Inv base (remove s n).1 := by
  fun_cases remove s n with
  | case1 => exact h
  | case2 _ hhas =>
  have hmem : n.key ∈ keys s.dyn := dynHas_iff.mp (by simpa using hhas)
  have hk := keys_filter s.dyn n.key
  -- the entry to go is among the dynamic ones: no configured network has that key
  have hbase : n.key ∉ base.map Net.key := fun hm => h.disj _ hmem (h.baseCfg _ hm)
  exact { h with
    nodup := hk ▸ h.nodup.filter _
    disj := hk ▸ fun k hkm => h.disj k (List.mem_filter.mp hkm).1
    keyed := fun e he => h.keyed e (List.mem_filter.mp he).1
    mirror := by
      rw [show (s.allowed.map fun rs => removeAllowed rs n).getD [] =
        removeAllowed (s.allowed.getD []) n by cases s.allowed <;> rfl, removeAllowed_keys, h.mirror,
        List.erase_append_right _ hbase, hk, h.nodup.erase_eq_filter]
      rfl }

theorem inv_step {base : List Net} {s : St} (h : Inv base s) (op : Op) : Inv base (step s op) := by
  cases op with
  | add n m => exact inv_add h n m
  | remove n => exact inv_remove h n
  | open_ d => exact h

theorem inv_run {base : List Net} {s : St} (h : Inv base s) (ops : List Op) : Inv base (run s ops) :=
  List.foldlRecOn ops step h fun _ h op _ => inv_step h op

theorem run_domains (s : St) (ops : List Op) : (run s ops).domains = s.domains := by
  refine List.foldlRecOn ops step (motive := fun s' => s'.domains = s.domains) rfl fun s' h op _ => ?_
  refine Eq.trans ?_ h
  cases op with
  | add n m => show (add s' n m).1.domains = _; fun_cases add s' n m <;> rfl
  | remove n => show (remove s' n).1.domains = _; fun_cases remove s' n <;> rfl
  | open_ d => rfl

theorem Inv.dynNets_keys {base : List Net} {s : St} (h : Inv base s) :
    (s.dyn.map (·.2.1)).map Net.key = keys s.dyn := by
  rw [List.map_map]
  exact List.map_congr_left fun e he => (h.keyed e he).symm

end MM.C19

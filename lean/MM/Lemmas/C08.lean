/-
  Helper lemmas for the route-table model (MM/Model/C08.lean): the association-list
  map primitives, the stable sort, the per-slice scans, the well-formedness invariant
  `WF`, its preservation by every table operation and how a well-formed table is read;
  that `stepsAtomic` survives dropping readers (for Props/C10Lock); then the arithmetic of
  `canonicalNetwork`.  Used by Props/C08, C09, C10.
-/
import MM.Model.C08

set_option linter.unusedSectionVars false

namespace MM.C08

section generic
variable {K P : Type} [DecidableEq K]

/-! ### map primitives -/

def keys (t : KTable K P) : List K := t.map (·.1)

theorem mem_of_get_ne_nil {t : KTable K P} {k : K} (h : get t k ≠ []) : (k, get t k) ∈ t := by
  fun_induction get t k with
  | case1 => exact absurd rfl h
  | case2 g rest => exact List.mem_cons_self
  | case3 k' g rest _ ih => exact List.mem_cons_of_mem _ (ih h)

theorem get_of_not_mem {t : KTable K P} {k : K} (h : k ∉ keys t) : get t k = [] :=
  Decidable.not_not.mp fun hne => h (List.mem_map.mpr ⟨_, mem_of_get_ne_nil hne, rfl⟩)

theorem get_of_mem {t : KTable K P} {k : K} {g : Group P} (hn : (keys t).Nodup)
    (h : (k, g) ∈ t) : get t k = g := by
  fun_induction get t k with
  | case1 => cases h
  | case2 g' rest =>
    rcases List.mem_cons.mp h with h | h
    · exact (Prod.mk.inj h).2.symm
    · exact absurd (List.mem_map.mpr ⟨(k, g), h, rfl⟩) (List.nodup_cons.mp hn).1
  | case3 k' g' rest hk ih =>
    rcases List.mem_cons.mp h with h | h
    · exact absurd (Prod.mk.inj h).1.symm hk
    · exact ih (List.nodup_cons.mp hn).2 h

theorem get_set (t : KTable K P) (k k2 : K) (g : Group P) :
    get (set t k g) k2 = if k2 = k then g else get t k2 := by
  by_cases e : k2 = k
  · subst e
    rw [if_pos rfl]
    fun_induction set t k2 g with
    | case1 | case2 => exact if_pos rfl
    | case3 k' g' rest hk ih => rw [get, if_neg hk, ih]
  · rw [if_neg e]
    fun_induction set t k g with
    | case1 => exact if_neg (Ne.symm e)
    | case2 g' rest => rw [get, get, if_neg (Ne.symm e), if_neg (Ne.symm e)]
    | case3 k' g' rest hk ih => rw [get, get, ih]

theorem mem_set {t : KTable K P} {k : K} {g : Group P} {kg : K × Group P}
    (h : kg ∈ set t k g) : kg = (k, g) ∨ kg ∈ t := by
  fun_induction set t k g with
  | case1 => exact Or.inl (List.mem_singleton.mp h)
  | case2 g' rest => exact (List.mem_cons.mp h).imp_right (List.mem_cons_of_mem _)
  | case3 k' g' rest _ ih =>
    rcases List.mem_cons.mp h with h | h
    · exact Or.inr (h ▸ List.mem_cons_self)
    · exact (ih h).imp_right (List.mem_cons_of_mem _)

theorem keys_set (t : KTable K P) (k : K) (g : Group P) :
    keys (set t k g) = if k ∈ keys t then keys t else keys t ++ [k] := by
  fun_induction set t k g with
  | case1 => rfl
  | case2 g' rest => exact (if_pos List.mem_cons_self).symm
  | case3 k' g' rest hk ih =>
    show k' :: keys (set rest k g) = _
    rw [ih, apply_ite (k' :: ·)]
    exact ite_cond_congr (propext (List.mem_cons.trans (or_iff_right fun h => hk h.symm))).symm

theorem nodup_keys_set {t : KTable K P} (hn : (keys t).Nodup) (k : K) (g : Group P) :
    (keys (set t k g)).Nodup := by
  rw [keys_set]
  split
  · exact hn
  · next hm => exact List.perm_append_comm.nodup_iff.mpr (List.nodup_cons.mpr ⟨hm, hn⟩)

theorem del_sublist (t : KTable K P) (k : K) : (del t k).Sublist t := List.filter_sublist

theorem get_del (t : KTable K P) (k k2 : K) :
    get (del t k) k2 = if k2 = k then [] else get t k2 := by
  by_cases e : k2 = k
  · subst e
    rw [if_pos rfl]
    refine get_of_not_mem fun hm => ?_
    obtain ⟨kg, hkg, rfl⟩ := List.mem_map.mp hm
    simpa using (List.mem_filter.mp hkg).2
  · rw [if_neg e]
    induction t with
    | nil => rfl
    | cons hd rest ih =>
      rw [del, List.filter_cons]
      by_cases ek : hd.1 = k
      · rw [if_neg (by simp [ek]), get, if_neg (ek ▸ Ne.symm e)]
        exact ih
      · rw [if_pos (by simp [ek]), get, get]
        exact congrArg _ ih

theorem keys_filterT_sublist (keep : Entry P → Bool) (t : KTable K P) :
    (keys (filterT keep t)).Sublist (keys t) :=
  -- filtering drops entries of the mapped table, and the map keeps the keys
  (List.filter_sublist.map _).trans (by rw [List.map_map]; exact .refl _)

theorem mem_filterT {keep : Entry P → Bool} {t : KTable K P} {kg : K × Group P}
    (h : kg ∈ filterT keep t) :
    kg.2 ≠ [] ∧ ∃ g, (kg.1, g) ∈ t ∧ kg.2 = g.filter keep := by
  simp only [filterT, List.mem_filter, List.mem_map] at h
  obtain ⟨⟨kg0, hm, he⟩, hne⟩ := h
  subst he
  refine ⟨?_, kg0.2, hm, rfl⟩
  intro e
  rw [e] at hne
  simp at hne

theorem get_filterT {keep : Entry P → Bool} {t : KTable K P} (hn : (keys t).Nodup) (k : K) :
    get (filterT keep t) k = (get t k).filter keep := by
  fun_induction get t k with
  | case1 => rfl
  | case2 g rest =>
    rw [filterT, List.map_cons, List.filter_cons]
    by_cases hemp : (g.filter keep).isEmpty = true
    · -- the slice becomes empty and is dropped; no later entry has the key
      rw [if_neg (by simp [hemp]), List.isEmpty_iff.mp hemp]
      refine get_of_not_mem fun hm => (List.nodup_cons.mp hn).1 ?_
      exact (keys_filterT_sublist keep rest).subset hm
    · rw [if_pos (by simp [hemp]), get, if_pos rfl]
  | case3 k' g rest hk ih =>
    rw [filterT, List.map_cons, List.filter_cons]
    split
    · rw [get, if_neg hk]; exact ih (List.nodup_cons.mp hn).2
    · exact ih (List.nodup_cons.mp hn).2

/-! ### routes and `get` -/

theorem mem_routes {t : KTable K P} {e : Entry P} :
    e ∈ routes t ↔ ∃ kg ∈ t, e ∈ kg.2 := List.mem_flatMap

theorem mem_routes_of_get {t : KTable K P} {k : K} {e : Entry P} (he : e ∈ get t k) :
    e ∈ routes t :=
  mem_routes.mpr ⟨_, mem_of_get_ne_nil (List.ne_nil_of_mem he), he⟩

/-! ### the stable sort -/

def SortedG (g : Group P) : Prop := g.Pairwise (fun a b => a.metric ≤ b.metric)

theorem ins_perm (x : Entry P) (g : Group P) : (ins x g).Perm (x :: g) := by
  fun_induction ins x g with
  | case1 | case2 => exact .refl _
  | case3 y ys _ ih => exact (ih.cons y).trans (.swap x y ys)

theorem sortG_perm (g : Group P) : (sortG g).Perm g := by
  fun_induction sortG g with
  | case1 => exact .refl _
  | case2 x xs ih => exact (ins_perm x _).trans (ih.cons x)

theorem mem_sortG {g : Group P} {e : Entry P} : e ∈ sortG g ↔ e ∈ g := (sortG_perm g).mem_iff

theorem ins_sorted (x : Entry P) {g : Group P} (h : SortedG g) : SortedG (ins x g) := by
  fun_induction ins x g with
  | case1 => exact List.pairwise_singleton _ _
  | case2 y ys hxy =>
    refine List.pairwise_cons.mpr ⟨fun z hz => ?_, h⟩
    rcases List.mem_cons.mp hz with rfl | hz
    · exact hxy
    · exact Nat.le_trans hxy ((List.pairwise_cons.mp h).1 z hz)
  | case3 y ys hxy ih =>
    have hy := List.pairwise_cons.mp h
    refine List.pairwise_cons.mpr ⟨fun z hz => ?_, ih hy.2⟩
    rcases List.mem_cons.mp ((ins_perm x ys).mem_iff.mp hz) with rfl | hz
    · omega
    · exact hy.1 z hz

theorem sortG_sorted (g : Group P) : SortedG (sortG g) := by
  fun_induction sortG g with
  | case1 => exact .nil
  | case2 x xs ih => exact ins_sorted x ih

theorem ins_of_forall_le {x : Entry P} {g : Group P} (h : ∀ y ∈ g, x.metric ≤ y.metric) :
    ins x g = x :: g := by
  cases g with
  | nil => rfl
  | cons y ys => exact if_pos (h y List.mem_cons_self)

theorem sortG_of_sorted {g : Group P} (h : SortedG g) : sortG g = g := by
  fun_induction sortG g with
  | case1 => rfl
  | case2 x xs ih =>
    have hx := List.pairwise_cons.mp h
    rw [ih hx.2]
    exact ins_of_forall_le hx.1

theorem head_min {g : Group P} (h : SortedG g) {r e : Entry P} (hr : g.head? = some r)
    (he : e ∈ g) : r.metric ≤ e.metric := by
  obtain ⟨xs, rfl⟩ := List.head?_eq_some_iff.mp hr
  rcases List.mem_cons.mp he with rfl | he
  · exact Nat.le_refl _
  · exact (List.pairwise_cons.mp h).1 e he

/-! ### slots and the per-slice scans -/

def slotKey (byHop : Bool) (e : Entry P) : Nat × Nat := (e.origin, if byHop then e.nextHop else 0)

theorem sameSlot_iff {byHop : Bool} {r e : Entry P} :
    sameSlot byHop r e = true ↔ slotKey byHop r = slotKey byHop e := by
  cases byHop <;> simp [sameSlot, slotKey]

/-- Both scans (`replG`: first entry in the new route's slot, `removeG`: first entry of the origin)
    are read off this split. -/
theorem split_first {α : Type} (p : α → Prop) [DecidablePred p] (l : List α) :
    (∀ x ∈ l, ¬ p x) ∨ ∃ pre x post, l = pre ++ x :: post ∧ (∀ y ∈ pre, ¬ p y) ∧ p x := by
  cases h : l.find? (fun x => decide (p x)) with
  | none => exact Or.inl (by simpa using h)
  | some x =>
    obtain ⟨hx, pre, post, hl, hpre⟩ := List.find?_eq_some_iff_append.mp h
    exact Or.inr ⟨pre, x, post, hl, by simpa using hpre, by simpa using hx⟩

theorem replG_eq_none {byHop : Bool} {e : Entry P} {g : Group P}
    (h : ∀ r ∈ g, ¬ sameSlot byHop r e = true) : replG byHop e g = none := by
  induction g with
  | nil => rfl
  | cons r rs ih =>
    obtain ⟨hr, hrs⟩ := List.forall_mem_cons.mp h
    simp only [replG, if_neg hr, ih hrs]

theorem replG_append {byHop : Bool} {e old : Entry P} {pre post : Group P}
    (hpre : ∀ r ∈ pre, ¬ sameSlot byHop r e = true) (hs : sameSlot byHop old e = true) :
    replG byHop e (pre ++ old :: post) =
      some (if newer e old then some (pre ++ e :: post) else none) := by
  induction pre with
  | nil => simp only [List.nil_append, replG, hs, if_true]; cases newer e old <;> rfl
  | cons r rs ih =>
    obtain ⟨hr, hrs⟩ := List.forall_mem_cons.mp hpre
    simp only [List.cons_append, replG, if_neg hr, ih hrs]
    cases newer e old <;> rfl

theorem removeG_eq_none {o : Nat} {g : Group P} (h : ∀ r ∈ g, ¬ r.origin = o) :
    removeG o g = none := by
  induction g with
  | nil => rfl
  | cons r rs ih =>
    obtain ⟨hr, hrs⟩ := List.forall_mem_cons.mp h
    simp only [removeG, if_neg hr, ih hrs, Option.map_none]

theorem removeG_append {o : Nat} {old : Entry P} {pre post : Group P}
    (hpre : ∀ r ∈ pre, ¬ r.origin = o) (ho : old.origin = o) :
    removeG o (pre ++ old :: post) = some (pre ++ post) := by
  induction pre with
  | nil => simp only [List.nil_append, removeG, if_pos ho]
  | cons r rs ih =>
    obtain ⟨hr, hrs⟩ := List.forall_mem_cons.mp hpre
    simp only [List.cons_append, removeG, if_neg hr, ih hrs, Option.map_some]

/-- What an accepted `AddRoute` of `e` makes of the slice `g` of its key, before the re-sort:
    all that the invariant and the update rule need to know of the two ways (append, overwrite). -/
structure Added (byHop : Bool) (e : Entry P) (g g' : Group P) : Prop where
  new : e ∈ g'
  sub : ∀ x ∈ g', x = e ∨ x ∈ g
  kept : ∀ x ∈ g, x ∈ g' ∨ (sameSlot byHop x e = true ∧ newer e x = true)
  slots : (g.map (slotKey byHop)).Nodup → (g'.map (slotKey byHop)).Nodup

theorem Added.append {byHop : Bool} {e : Entry P} {g : Group P}
    (h : ∀ r ∈ g, ¬ sameSlot byHop r e = true) : Added byHop e g (g ++ [e]) where
  new := List.mem_append_cons_self
  sub x hx := (List.mem_append.mp hx).symm.imp_left List.mem_singleton.mp
  kept x hx := Or.inl (List.mem_append_left _ hx)
  slots hn := by
    rw [List.map_append]
    refine List.perm_append_comm.nodup_iff.mpr (List.nodup_cons.mpr ⟨fun ha => ?_, hn⟩)
    obtain ⟨r, hr, heq⟩ := List.mem_map.mp ha
    exact h r hr (sameSlot_iff.mpr heq)

theorem Added.replace {byHop : Bool} {e old : Entry P} {pre post : Group P}
    (hs : sameSlot byHop old e = true) (hn : newer e old = true) :
    Added byHop e (pre ++ old :: post) (pre ++ e :: post) where
  new := List.mem_append_cons_self
  -- `x ∈ pre ++ a :: post` iff `x = a` or `x ∈ pre ++ post` (`perm_middle`), for `a = e` and `a = old`
  sub x hx := (List.mem_cons.mp (List.perm_middle.mem_iff.mp hx)).imp_right fun h =>
    List.perm_middle.mem_iff.mpr (List.mem_cons_of_mem _ h)
  kept x hx := (List.mem_cons.mp (List.perm_middle.mem_iff.mp hx)).symm.imp
    (fun h => List.perm_middle.mem_iff.mpr (List.mem_cons_of_mem _ h)) fun (h : x = old) => h ▸ ⟨hs, hn⟩
  slots h := by
    simpa only [List.map_append, List.map_cons, sameSlot_iff.mp hs] using h

theorem addRoute_cases (c : Cfg K P) (self : Nat) (t : KTable K P) (e : Entry P) :
    addRoute c self t e = (t, false) ∨
    self ∉ e.path ∧ ∃ g', Added c.byHop (stored c e) (get t (c.keyOf (stored c e).pay)) g' ∧
      addRoute c self t e = (set t (c.keyOf (stored c e).pay) (sortG g'), true) := by
  unfold addRoute
  by_cases hv : (!c.valid e.pay) = true
  · exact Or.inl (if_pos hv)
  by_cases hp : e.path.contains self = true
  · exact Or.inl (by rw [if_neg hv, if_pos hp])
  rw [if_neg hv, if_neg hp]
  have hself : self ∉ e.path := fun h => hp (List.contains_iff_mem.mpr h)
  dsimp only
  generalize stored c e = e'
  generalize get t (c.keyOf e'.pay) = g
  rcases split_first (fun r => sameSlot c.byHop r e' = true) g with
    h | ⟨pre, old, post, rfl, hpre, hs⟩
  · rw [replG_eq_none h]
    exact Or.inr ⟨hself, _, Added.append h, rfl⟩
  · rw [replG_append hpre hs]
    cases hn : newer e' old
    · exact Or.inl rfl
    · exact Or.inr ⟨hself, _, Added.replace hs hn, rfl⟩

/-! ### the invariant -/

structure GroupOK (c : Cfg K P) (me : Nat) (k : K) (g : Group P) : Prop where
  ne : g ≠ []
  sorted : SortedG g
  key : ∀ e ∈ g, c.keyOf e.pay = k
  stored : ∀ e ∈ g, ∃ p, e.pay = c.store p
  noself : ∀ e ∈ g, me ∉ e.path
  slots : (g.map (slotKey c.byHop)).Nodup

/-- Well-formed table: a genuine map (distinct keys) of non-empty, metric-sorted slices whose
    entries all belong under their key, hold stored-form payloads, never carry the local agent
    in their path, and occupy distinct slots. -/
def WF (c : Cfg K P) (self : Nat) (t : KTable K P) : Prop :=
  (keys t).Nodup ∧ ∀ kg ∈ t, GroupOK c self kg.1 kg.2

theorem WF_nil (c : Cfg K P) (self : Nat) : WF c self ([] : KTable K P) :=
  ⟨List.nodup_nil, nofun⟩

theorem GroupOK.sublist {c : Cfg K P} {self : Nat} {k : K} {g g' : Group P}
    (h : GroupOK c self k g) (hs : g'.Sublist g) (hne : g' ≠ []) : GroupOK c self k g' :=
  ⟨hne, List.Pairwise.sublist hs h.sorted, fun e he => h.key e (hs.subset he),
   fun e he => h.stored e (hs.subset he), fun e he => h.noself e (hs.subset he),
   List.Nodup.sublist (hs.map _) h.slots⟩

theorem WF.get_ok {c : Cfg K P} {self : Nat} {t : KTable K P} (h : WF c self t) {k : K}
    (hne : get t k ≠ []) : GroupOK c self k (get t k) :=
  h.2 (k, get t k) (mem_of_get_ne_nil hne)

/-! `get_ok` without its hypothesis: an absent key reads as the empty slice, of which these hold too. -/

theorem WF.get_nil_or_ok {c : Cfg K P} {self : Nat} {t : KTable K P} (h : WF c self t) (k : K) :
    get t k = [] ∨ GroupOK c self k (get t k) :=
  (Classical.em _).imp_right h.get_ok

theorem WF.sorted_get {c : Cfg K P} {self : Nat} {t : KTable K P} (h : WF c self t) (k : K) :
    SortedG (get t k) :=
  (h.get_nil_or_ok k).elim (fun e => e ▸ List.Pairwise.nil) (·.sorted)

theorem WF.slots_get {c : Cfg K P} {self : Nat} {t : KTable K P} (h : WF c self t) (k : K) :
    ((get t k).map (slotKey c.byHop)).Nodup :=
  (h.get_nil_or_ok k).elim (fun e => e ▸ List.nodup_nil) (·.slots)

theorem WF.entry_get {c : Cfg K P} {self : Nat} {t : KTable K P} (h : WF c self t) {k : K}
    {x : Entry P} (hx : x ∈ get t k) :
    c.keyOf x.pay = k ∧ (∃ p, x.pay = c.store p) ∧ self ∉ x.path :=
  have hok := h.get_ok (List.ne_nil_of_mem hx)
  ⟨hok.key x hx, hok.stored x hx, hok.noself x hx⟩

theorem WF_set {c : Cfg K P} {self : Nat} {t : KTable K P} (h : WF c self t) {k : K}
    {g : Group P} (hg : GroupOK c self k g) : WF c self (set t k g) := by
  refine ⟨nodup_keys_set h.1 k g, fun kg hkg => ?_⟩
  rcases mem_set hkg with rfl | hm
  · exact hg
  · exact h.2 kg hm

theorem WF_del {c : Cfg K P} {self : Nat} {t : KTable K P} (h : WF c self t) (k : K) :
    WF c self (del t k) :=
  ⟨List.Nodup.sublist ((del_sublist t k).map _) h.1,
   fun kg hkg => h.2 kg ((del_sublist t k).subset hkg)⟩

theorem WF_filterT {c : Cfg K P} {self : Nat} {t : KTable K P} (h : WF c self t)
    (keep : Entry P → Bool) : WF c self (filterT keep t) := by
  refine ⟨List.Nodup.sublist (keys_filterT_sublist keep t) h.1, fun kg hkg => ?_⟩
  obtain ⟨hne, g, hm, he⟩ := mem_filterT hkg
  rw [he] at hne ⊢
  exact (h.2 (kg.1, g) hm).sublist List.filter_sublist hne

theorem WF_removeRoute {c : Cfg K P} {self : Nat} {t : KTable K P} (h : WF c self t)
    (k : K) (o : Nat) : WF c self (removeRoute t k o).1 := by
  unfold removeRoute
  rcases split_first (·.origin = o) (get t k) with hno | ⟨pre, old, post, hg, hpre, ho⟩
  · rw [removeG_eq_none hno]; exact h
  · have hok := h.get_ok (List.ne_nil_of_mem (hg ▸ List.mem_append_cons_self))
    rw [hg] at hok ⊢
    rw [removeG_append hpre ho]
    cases hg' : pre ++ post with
    | nil => exact WF_del h k
    | cons x xs =>
      refine WF_set h (hok.sublist ?_ (List.cons_ne_nil x xs))
      rw [← hg']
      exact (List.Sublist.refl pre).append (List.sublist_cons_self old post)

theorem WF_addRoute {c : Cfg K P} {self : Nat} {t : KTable K P} (h : WF c self t)
    (e : Entry P) : WF c self (addRoute c self t e).1 := by
  rcases addRoute_cases c self t e with heq | ⟨hself, g', ha, heq⟩
  · rw [heq]; exact h
  · rw [heq]
    -- all of `GroupOK` but the order is a property of the set of entries, and `sortG` supplies the order
    have he : ∀ x ∈ sortG g',
        c.keyOf x.pay = c.keyOf (stored c e).pay ∧ (∃ p, x.pay = c.store p) ∧ self ∉ x.path := by
      intro x hx
      rcases ha.sub x (mem_sortG.mp hx) with rfl | hx
      · exact ⟨rfl, ⟨e.pay, rfl⟩, hself⟩
      · exact h.entry_get hx
    exact WF_set h
      { ne := List.ne_nil_of_mem (mem_sortG.mpr ha.new)
        sorted := sortG_sorted g'
        key := fun x hx => (he x hx).1
        stored := fun x hx => (he x hx).2.1
        noself := fun x hx => (he x hx).2.2
        slots := ((sortG_perm g').map _).nodup_iff.mpr (ha.slots (h.slots_get _)) }

theorem WF_step {c : Cfg K P} {self : Nat} {s : State K P} (h : WF c self s.tab)
    (op : Op K P) : WF c self (step c self s op).tab := by
  cases op with
  | add e => exact WF_addRoute h _
  | remove k o => exact WF_removeRoute h k o
  | disconnect p => exact WF_filterT h _
  | tick n => exact h
  | cleanup a => exact WF_filterT h _

theorem WF_run (c : Cfg K P) (self : Nat) (ops : List (Op K P)) : WF c self (run c self ops).tab :=
  List.foldlRecOn ops (step c self) (motive := fun s => WF c self s.tab) (WF_nil c self)
    fun _ h op _ => WF_step h op

/-! ### reading a well-formed table -/

theorem WF.mem_routes {c : Cfg K P} {self : Nat} {t : KTable K P} (h : WF c self t)
    {e : Entry P} : e ∈ routes t ↔ e ∈ get t (c.keyOf e.pay) := by
  refine ⟨fun he => ?_, mem_routes_of_get⟩
  obtain ⟨kg, hkg, hm⟩ := List.mem_flatMap.mp he
  rw [(h.2 kg hkg).key e hm, get_of_mem h.1 hkg]
  exact hm

/-- The routes of a well-formed table `t'` whose `get` is a point update of `t`'s: this is how
    `AddRoute` (`get_set`) and `RemoveRoute` (`get_set` / `get_del`) act on the set of routes. -/
theorem WF.mem_routes_upd {c : Cfg K P} {self : Nat} {t t' : KTable K P} (h : WF c self t)
    (h' : WF c self t') {k : K} {g : Group P}
    (hv : ∀ k2, get t' k2 = if k2 = k then g else get t k2) {x : Entry P} :
    x ∈ routes t' ↔ if c.keyOf x.pay = k then x ∈ g else x ∈ routes t := by
  rw [h'.mem_routes, hv, h.mem_routes]
  split <;> rfl

/-- What `routes[0]` of the slice under `k` is: a stored route of that key with the least metric
    among all stored routes of that key; nothing iff no stored route has that key. -/
def KeyBest (c : Cfg K P) (t : KTable K P) (k : K) : Option (Entry P) → Prop
  | some r => r ∈ routes t ∧ c.keyOf r.pay = k ∧
      ∀ r' ∈ routes t, c.keyOf r'.pay = k → r.metric ≤ r'.metric
  | none => ∀ r' ∈ routes t, c.keyOf r'.pay ≠ k

theorem best_correct {c : Cfg K P} {self : Nat} {t : KTable K P} (h : WF c self t) (k : K) :
    KeyBest c t k (best t k) := by
  unfold best
  cases hb : (get t k).head? with
  | none =>
    intro r' hr' hk
    rw [h.mem_routes, hk, List.head?_eq_none_iff.mp hb] at hr'
    cases hr'
  | some r =>
    have hr := List.mem_of_mem_head? hb
    refine ⟨mem_routes_of_get hr, (h.entry_get hr).1, fun r' hr' hk' => ?_⟩
    rw [h.mem_routes, hk'] at hr'
    exact head_min (h.sorted_get k) hb hr'

end generic

/-! ## atomic steps -/

theorem stepsAtomic_fewer_readers {acq : List (String × Nat)}
    {acc : List (String × String × Bool × String)} {calls : List (String × String × String)}
    {mutators readers readers' : List String} (hsub : ∀ r ∈ readers', r ∈ readers)
    (h : stepsAtomic acq acc calls mutators readers = true) :
    stepsAtomic acq acc calls mutators readers' = true := by
  -- the test applied to each access and call: a method dropped from the readers falls through to `true`
  have key : ∀ {m : String} {P Q : Bool},
      (if mutators.contains m then P else if readers.contains m then Q else true) = true →
      (if mutators.contains m then P else if readers'.contains m then Q else true) = true := by
    intro m P Q h
    by_cases hm : mutators.contains m = true
    · rwa [if_pos hm] at h ⊢
    · rw [if_neg hm] at h ⊢
      by_cases hr : readers'.contains m = true
      · rw [if_pos (List.contains_iff_mem.mpr (hsub m (List.contains_iff_mem.mp hr)))] at h
        rwa [if_pos hr]
      · rw [if_neg hr]
  simp only [stepsAtomic, Bool.and_eq_true, List.all_eq_true] at h ⊢
  exact ⟨⟨⟨h.1.1.1, fun m hm => h.1.1.2 m (hsub m hm)⟩, fun a ha => key (h.1.2 a ha)⟩,
    fun c hc => key (h.2 c hc)⟩

/-! ## CIDR arithmetic -/

theorem maskLow_div {a s t : Nat} (h : s ≤ t) : maskLow a s / 2^t = a / 2^t := by
  unfold maskLow
  rw [← Nat.pow_sub_mul_pow 2 h, Nat.mul_comm (2^(t - s)), ← Nat.div_div_eq_div_mul,
    Nat.mul_div_cancel _ (Nat.two_pow_pos s), Nat.div_div_eq_div_mul]

/-- clearing low bits of a 16-byte address never produces an IPv4-mapped address -/
theorem maskLow_not_mapped {a s : Nat} (h : a / 2^32 ≠ 0xffff) : maskLow a s / 2^32 ≠ 0xffff := by
  by_cases hs : s ≤ 32
  · rwa [maskLow_div hs]
  · -- bit 32 is cleared, and `0xffff` is odd
    unfold maskLow
    rw [← Nat.pow_sub_mul_pow 2 (show 33 ≤ s by omega), ← Nat.mul_assoc]
    omega

theorem eff_some {n : IPNet} {b a o : Nat} (h : eff n = some (b, a, o)) :
    o ≤ b ∧ (b = 32 ∨ b = 128 ∧ a / 2^32 ≠ 0xffff) := by
  revert h
  -- 1: `ones > mbits`; 2–4: `To4` succeeds and the mask has 32 / 128 / other bits; 5, 6: `To4` fails
  -- on a 16-byte network with a 128-bit mask / on anything else
  fun_cases eff n with
  | case1 | case4 | case6 => nofun
  | case2 | case3 =>
    intro h; cases h
    exact ⟨by omega, Or.inl rfl⟩
  | case5 h0 h4 hc =>
    intro h; cases h
    refine ⟨by omega, Or.inr ⟨rfl, fun hm => ?_⟩⟩
    -- a 16-byte address with that prefix is IPv4-mapped: `To4` succeeds
    unfold to4 at h4
    rw [hc.1, if_neg (by decide), if_pos ⟨rfl, hm⟩] at h4
    cases h4

theorem canon_of_eff {n : IPNet} {b a o : Nat} (h : eff n = some (b, a, o)) :
    canon n = { len := b / 8, addr := maskLow a (b - o), ones := o, mbits := b } := by
  unfold canon; rw [h]

theorem canon_of_eff_none {n : IPNet} (h : eff n = none) : canon n = n := by
  unfold canon; rw [h]

theorem eff_canon (n : IPNet) :
    eff (canon n) = (eff n).map fun (b, a, o) => (b, maskLow a (b - o), o) := by
  cases h : eff n with
  | none => rw [canon_of_eff_none h, h]; rfl
  | some v =>
    obtain ⟨b, a, o⟩ := v
    obtain ⟨hob, hc⟩ := eff_some h
    rw [canon_of_eff h]
    unfold eff to4
    rcases hc with rfl | ⟨rfl, hnm⟩
    · rw [if_neg (show ¬ o > 32 by omega), if_pos (show 32 / 8 = 4 from rfl)]
      rfl
    · rw [if_neg (show ¬ o > 128 by omega), if_neg (show ¬ 128 / 8 = 4 by decide),
        if_neg (fun hm => maskLow_not_mapped hnm hm.2)]
      rfl

theorem eff_canon_eq_none {p : IPNet} (h : eff (canon p) = none) : eff p = none :=
  Option.map_eq_none_iff.mp ((eff_canon p).symm.trans h)

theorem contains_of_eff {n m : IPNet} (h : eff n = eff m) (ip : IPAddr) :
    contains n ip = contains m ip := by unfold contains; rw [h]

theorem plen_of_eff {n m : IPNet} (h : eff n = eff m) : plen n = plen m := by
  unfold plen; rw [h]

theorem contains_canon (n : IPNet) (ip : IPAddr) : contains (canon n) ip = contains n ip := by
  unfold contains
  rw [eff_canon]
  cases eff n with
  | none => rfl
  | some v =>
    cases effIP ip with
    | none => rfl
    | some w => simp only [Option.map_some, maskLow_div (Nat.le_refl _)]

theorem plen_canon (n : IPNet) : plen (canon n) = plen n := by
  unfold plen
  rw [eff_canon]
  cases eff n <;> rfl

/-- A stored network that contains `ip` is `ip` cut to the network's prefix length, so `ip` and
    that length determine it (an unusable network contains exactly the unusable addresses). -/
theorem eff_of_contains {n : IPNet} {ip : IPAddr} (hn : ∃ p, n = canon p)
    (h : contains n ip = true) :
    eff n = (effIP ip).map fun z => (z.1, maskLow z.2 (z.1 - plen n), plen n) := by
  obtain ⟨p, rfl⟩ := hn
  unfold contains plen at *
  rw [eff_canon] at h ⊢
  generalize eff p = k, effIP ip = i at h ⊢
  cases k with
  | none =>
    cases i with
    | none => rfl
    | some z => cases h
  | some v =>
    cases i with
    | none => cases h
    | some z =>
      obtain ⟨b, a, o⟩ := v
      simp only [Option.map_some, Bool.and_eq_true, beq_iff_eq, maskLow_div (Nat.le_refl _)] at h
      obtain ⟨rfl, hx⟩ := h
      simp only [Option.map_some, maskLow, hx]

theorem canon_key_inj {n m : IPNet} {ip : IPAddr} (hn : ∃ p, n = canon p)
    (hm : ∃ q, m = canon q) (hp : contains n ip = true) (hq : contains m ip = true)
    (hl : plen n = plen m) : eff n = eff m := by
  rw [eff_of_contains hn hp, eff_of_contains hm hq, hl]

theorem rawOnes_canon {p : IPNet} {v : Nat × Nat × Nat} (h : eff (canon p) = some v) :
    rawOnes (canon p) = plen (canon p) := by
  cases he : eff p with
  | none => rw [canon_of_eff_none he, he] at h; cases h
  | some w =>
    obtain ⟨b, a, o⟩ := w
    have hb : b ≠ 0 := by
      obtain ⟨-, rfl | ⟨rfl, -⟩⟩ := eff_some he <;> omega
    unfold plen
    rw [eff_canon, he, canon_of_eff he]
    exact if_neg hb

/-- among stored (canonical) networks that contain one address, the order the lookup compares by
    (`Mask.Size()`) is the order of prefix lengths -/
theorem plen_le_of_rawOnes_le {n m : IPNet} {ip : IPAddr} (hn : ∃ p, n = canon p)
    (hm : ∃ q, m = canon q) (hp : contains n ip = true) (hq : contains m ip = true)
    (h : rawOnes n ≤ rawOnes m) : plen n ≤ plen m := by
  have en := eff_of_contains hn hp
  have em := eff_of_contains hm hq
  obtain ⟨p, rfl⟩ := hn
  obtain ⟨q, rfl⟩ := hm
  generalize effIP ip = i at en em
  cases i with
  | none =>
    -- an unusable address is contained in unusable networks only; their prefix length is 0
    have : plen (canon p) = 0 := by unfold plen; rw [en]; rfl
    omega
  | some z => rwa [rawOnes_canon en, rawOnes_canon em] at h

end MM.C08

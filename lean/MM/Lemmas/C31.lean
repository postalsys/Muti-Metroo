import MM.Model.C31

/-!
  Invariant of the fixed reconnector (`fx = true`) and its preservation by every step.

  `schedule` and `ret` are characterised once each (`schedule_cases`, `ret_cases`: both end in `settle`);
  what they preserve — the invariant, the reconnector's flags — is read off those characterisations.
-/
namespace MM.C31

/-- At most one timer is armed; it is the one the state points to, it was armed with the state's
    current `nextDelay`, and nothing is armed while paused or closed.  `nextDelay` is the
    `attempts`-th element of the backoff sequence. -/
def Inv (c : Cfg) (r : R) : Prop :=
  (∀ s, r.st = some s → s.nextDelay = dseq c s.attempts) ∧
  (r.live = [] ∨ ∃ s t, r.st = some s ∧ r.live = [t] ∧ s.timer = some t.id ∧ t.delay = s.nextDelay ∧
      r.paused = false ∧ r.closed = false)

theorem inv_idle {c : Cfg} {r : R} (hs : r.st = none) (hl : r.live = []) : Inv c r :=
  ⟨fun _ e => (nomatch hs.symm.trans e), Or.inl hl⟩

theorem inv_init (c : Cfg) : Inv c {} := inv_idle rfl rfl

@[simp] theorem stopT_fields (r : R) (o : Option Nat) :
    (stopT r o).st = r.st ∧ (stopT r o).paused = r.paused ∧ (stopT r o).closed = r.closed ∧
    (stopT r o).flights = r.flights ∧ (stopT r o).nextId = r.nextId := by
  cases o <;> exact ⟨rfl, rfl, rfl, rfl, rfl⟩

theorem stop_live {c : Cfg} {r : R} (h : Inv c r) {s : PeerSt} (hs : r.st = some s) :
    (stopT r s.timer).live = [] := by
  rcases h.2 with h0 | ⟨s', t, hs', hl, ht, _⟩
  · cases s.timer <;> simp [stopT, h0]
  · cases hs.symm.trans hs'
    simp [stopT, ht, hl]

theorem live_nil {c : Cfg} {r : R} (h : Inv c r) (hs : r.st = none) : r.live = [] := by
  rcases h.2 with h0 | ⟨s', t, hs', _⟩
  · exact h0
  · cases hs.symm.trans hs'

/-- The common tail of `schedule` and `ret` in the fixed code: stop the timer of the state `s` being
    worked on; then drop the state, or keep it — without a timer while paused, with one fresh timer
    armed with `s.nextDelay` otherwise.  Written so that `schedule` ends in it by `rfl`. -/
def settle (r : R) (s : PeerSt) (drop : Bool) : R :=
  let r' := stopT r s.timer
  if drop then { r' with st := none }
  else if r.paused then { r' with st := some { s with timer := none } }
  else { (arm r' s.nextDelay).1 with st := some { s with timer := some r'.nextId } }

/-- The reconnector-level flags. -/
def flags (r : R) : Bool × Bool := (r.paused, r.closed)

theorem settle_flags (r : R) (s : PeerSt) (drop : Bool) : flags (settle r s drop) = flags r := by
  unfold settle
  dsimp only
  split
  · simp [flags]
  · split <;> simp [flags, arm]

theorem inv_settle (c : Cfg) (r : R) (s : PeerSt) (drop : Bool) (hl : (stopT r s.timer).live = [])
    (hd : s.nextDelay = dseq c s.attempts) (hc : r.closed = false) : Inv c (settle r s drop) := by
  unfold settle
  cases drop with
  | true => exact inv_idle rfl hl
  | false =>
    cases hp : r.paused with
    | true => exact ⟨fun _ h => by cases h; exact hd, Or.inl hl⟩
    | false =>
      refine ⟨fun _ h => by cases h; exact hd, Or.inr ⟨_, ⟨_, s.nextDelay⟩, rfl, ?_, rfl, rfl, ?_, ?_⟩⟩
      · simp [arm, hl]
      · simp [arm, hp]
      · simp [arm, hc]

theorem schedule_cases (c : Cfg) (r : R) :
    schedule c r = r ∨ r.closed = false ∧
      ((∃ s drop, r.st = some s ∧ schedule c r = settle r s drop) ∨
       (∃ drop, r.st = none ∧
          schedule c r = settle { r with nextId := r.nextId + 1 } ⟨0, c.I, none, r.nextId⟩ drop)) := by
  obtain ⟨st, live, paused, closed, flights, nextId⟩ := r
  cases closed with
  | true => exact Or.inl rfl
  | false =>
    cases paused with
    | true => exact Or.inl rfl
    | false =>
      cases st with
      | some s => exact Or.inr ⟨rfl, Or.inl ⟨s, _, rfl, rfl⟩⟩
      | none => exact Or.inr ⟨rfl, Or.inr ⟨_, rfl, rfl⟩⟩

theorem ret_cases (c : Cfg) (r : R) (ok : Bool) :
    ret true c r ok = { r with flights := r.flights.tail } ∨
    ∃ s drop, r.st = some s ∧ r.closed = false ∧
      ret true c r ok = settle { r with flights := r.flights.tail } s drop := by
  obtain ⟨st, live, paused, closed, flights, nextId⟩ := r
  cases flights with
  | nil => exact Or.inl rfl
  | cons obj rest =>
    cases closed with
    | true => exact Or.inl rfl
    | false =>
      cases st with
      | none => exact Or.inl rfl
      | some s =>
        by_cases ho : (s.obj != obj) = true
        · exact Or.inl (by simp [ret, ho])
        · refine Or.inr ⟨s, ok || !(c.maxAtt == 0 || decide (s.attempts < c.maxAtt)), rfl, rfl, ?_⟩
          cases ok <;> cases hk : (c.maxAtt == 0 || decide (s.attempts < c.maxAtt)) <;>
            simp [ret, ho, hk, settle, arm]

theorem found_registered {c : Cfg} {r : R} (h : Inv c r) {i : Nat} {t : Timer}
    (ht : r.live.find? (fun t => t.id == i) = some t) :
    r.live.filter (fun t => t.id != i) = [] ∧ ∃ s, r.st = some s ∧ t.delay = s.nextDelay := by
  rcases h.2 with h0 | ⟨s, t', hs, hl, _, hd, _⟩
  · rw [h0] at ht; cases ht
  · rw [hl, List.find?_singleton] at ht
    obtain ⟨hi, ht⟩ := Option.ite_none_right_eq_some.1 ht
    cases ht
    exact ⟨by simp [hl, beq_iff_eq.mp hi], s, hs, hd⟩

/-- `r'` has the flags of `r`, and the invariant whenever `r` has it: what every address-level operation does. -/
def Keeps (c : Cfg) (r r' : R) : Prop := flags r' = flags r ∧ (Inv c r → Inv c r')

theorem Keeps.refl (c : Cfg) (r : R) : Keeps c r r := ⟨rfl, id⟩

theorem Keeps.trans {c : Cfg} {r r' r'' : R} (h1 : Keeps c r r') (h2 : Keeps c r' r'') : Keeps c r r'' :=
  ⟨h2.1.trans h1.1, h2.2 ∘ h1.2⟩

theorem schedule_keeps (c : Cfg) (r : R) : Keeps c r (schedule c r) := by
  rcases schedule_cases c r with e | ⟨hc, ⟨s, drop, hs, e⟩ | ⟨drop, hs, e⟩⟩ <;> rw [e]
  · exact .refl c r
  · exact ⟨settle_flags r s drop, fun h => inv_settle c r s drop (stop_live h hs) (h.1 s hs) hc⟩
  · exact ⟨settle_flags _ _ drop, fun h => inv_settle c _ _ drop (live_nil h hs) rfl hc⟩

theorem ret_keeps (c : Cfg) (r : R) (ok : Bool) : Keeps c r (ret true c r ok) := by
  rcases ret_cases c r ok with e | ⟨s, drop, hs, hc, e⟩ <;> rw [e]
  · exact ⟨rfl, id⟩
  · exact ⟨settle_flags _ s drop, fun h =>
      inv_settle c _ s drop (stop_live (r := { r with flights := r.flights.tail }) h hs) (h.1 s hs) hc⟩

theorem fire_keeps (c : Cfg) (r : R) (i : Nat) : Keeps c r (fire true c r i).1 := by
  -- no such timer; no state; closed or paused; an attempt starts
  fun_cases fire true c r i
  case case1 => exact .refl c r
  case case2 ht _ _ | case3 ht _ _ _ _ => exact ⟨rfl, fun h => ⟨h.1, Or.inl (found_registered h ht).1⟩⟩
  case case4 ht _ s hs _ _ =>
    exact ⟨rfl, fun h =>
      ⟨fun _ e => by cases e; exact congrArg (nextD c) (h.1 s hs), Or.inl (found_registered h ht).1⟩⟩

theorem clear_st (r : R) : (clear r).st = none := by
  unfold clear
  split
  · assumption
  · rfl

theorem clear_live {c : Cfg} {r : R} (h : Inv c r) : (clear r).live = [] := by
  unfold clear
  split
  · exact live_nil h ‹_›
  · exact stop_live h ‹_›

theorem clear_flags (r : R) : flags (clear r) = flags r := by
  unfold clear
  cases r.st <;> simp [flags]

theorem step_keeps (c : Cfg) (r : R) : ∀ {l : Label}, l.isGlobal = false → Keeps c r (step true c r l).1
  | .schedule, _ => schedule_keeps c r
  | .fire i, _ => fire_keeps c r i
  | .retOk, _ => ret_keeps c r true
  | .retFail, _ => ret_keeps c r false
  | .retFailSched, _ => by
    simp only [step]
    split
    · exact ret_keeps c r false
    · exact (schedule_keeps c r).trans (ret_keeps c _ false)
  | .cancel, _ => ⟨clear_flags r, fun h => inv_idle (clear_st r) (clear_live h)⟩

/-! ### The reconnector-level operations, and every step -/

theorem inv_pause (c : Cfg) (r : R) (h : Inv c r) : Inv c (pause r) := by
  unfold pause
  split
  · exact h
  · cases hs : r.st with
    | none => exact inv_idle rfl (live_nil (r := r) h hs)
    | some s => exact ⟨fun _ e => by cases e; exact h.1 s hs, Or.inl (stop_live (r := r) h hs)⟩

theorem pause_flags (r : R) : flags (pause r) = (r.paused || !r.closed, r.closed) := by
  unfold pause
  cases hp : r.paused <;> cases hc : r.closed <;> cases r.st <;> simp [flags, hp, hc]

theorem inv_resume (c : Cfg) (r : R) (h : Inv c r) : Inv c { r with paused := false } :=
  ⟨h.1, h.2.imp_right fun ⟨s, t, hs, hl, ht, hdl, _, hc⟩ => ⟨s, t, hs, hl, ht, hdl, rfl, hc⟩⟩

theorem inv_step (c : Cfg) (r : R) (h : Inv c r) (l : Label) : Inv c (step true c r l).1 := by
  cases l with
  | pause => exact inv_pause c r h
  | resume => exact inv_resume c r h
  | resetAll | stop => exact inv_idle (clear_st r) (clear_live h)
  | _ => exact (step_keeps c r rfl).2 h  -- the address-level labels

/-- How a label moves the flags: whatever else a step does, the new flags are this function of the old ones. -/
def flagStep : Label → Bool × Bool → Bool × Bool
  | .pause, f => (f.1 || !f.2, f.2)
  | .resume, f => (false, f.2)
  | .stop, f => (f.1, true)
  | _, f => f

theorem step_flags (c : Cfg) (r : R) (l : Label) : flags (step true c r l).1 = flagStep l (flags r) := by
  cases l with
  | pause => exact pause_flags r
  | resume => rfl
  | resetAll => exact clear_flags r
  | stop => exact congrArg (fun f => (f.1, true)) (clear_flags r)
  | _ => exact (step_keeps c r rfl).1

theorem arm_flags (r : R) (d : Nat) : (arm r d).1.paused = r.paused ∧ (arm r d).1.closed = r.closed := ⟨rfl, rfl⟩

theorem step_attempt {c : Cfg} {r : R} {l : Label} {n d : Nat} {wp : Bool}
    (h : (step true c r l).2 = some (.attempt n d wp)) :
    wp = false ∧ r.paused = false ∧
      ∃ i s t, l = .fire i ∧ r.st = some s ∧ r.live.find? (fun t => t.id == i) = some t ∧
        n = s.attempts + 1 ∧ d = t.delay := by
  cases l
  case fire i =>
    revert h
    show (fire true c r i).2 = _ → _
    fun_cases fire true c r i
    case case4 t ht _ s hs hcp _ =>
      intro h
      cases h
      obtain ⟨_, hp⟩ : r.closed = false ∧ r.paused = false := by simpa using hcp
      exact ⟨hp, hp, i, s, t, rfl, hs, ht, rfl, rfl⟩
    all_goals exact nofun
  all_goals cases h

/-! ### The backoff sequence -/

theorem nextD_le_max (c : Cfg) (d : Nat) : nextD c d ≤ c.M := Nat.min_le_right _ _

theorem nextD_ge (c : Cfg) (hm : c.mden ≤ c.mnum) (hd : 0 < c.mden) (d : Nat) (hM : d ≤ c.M) : d ≤ nextD c d :=
  Nat.le_min.mpr ⟨(Nat.le_div_iff_mul_le hd).mpr (Nat.mul_le_mul_left d hm), hM⟩

theorem dseq_le_max_all (c : Cfg) (hIM : c.I ≤ c.M) : ∀ k, dseq c k ≤ c.M
  | 0 => hIM
  | k + 1 => nextD_le_max c (dseq c k)

theorem dseq_mono (c : Cfg) (hm : c.mden ≤ c.mnum) (hd : 0 < c.mden) (hIM : c.I ≤ c.M) (k : Nat) :
    dseq c k ≤ dseq c (k + 1) :=
  nextD_ge c hm hd _ (dseq_le_max_all c hIM k)

theorem dseq_cap_absorbing (c : Cfg) (hm : c.mden ≤ c.mnum) (hd : 0 < c.mden) (k : Nat)
    (h : dseq c k = c.M) : dseq c (k + 1) = c.M := by
  simp only [dseq]
  rw [h]
  exact Nat.le_antisymm (nextD_le_max c c.M) (nextD_ge c hm hd c.M (Nat.le_refl _))

/-- `I·(m−1) ≥ 1` makes the multiplier at least 1 … -/
theorem mden_le_mnum (c : Cfg) (hd : 0 < c.mden) (hg : c.mden ≤ (c.mnum - c.mden) * c.I) : c.mden ≤ c.mnum :=
  Nat.le_of_not_lt fun h => by
    rw [Nat.sub_eq_zero_of_le (Nat.le_of_lt h), Nat.zero_mul] at hg
    omega

/-- … and every step below the cap gains at least 1 ns. -/
theorem nextD_grow (c : Cfg) (hd : 0 < c.mden) (hg : c.mden ≤ (c.mnum - c.mden) * c.I) (d : Nat) (hI : c.I ≤ d)
    (hM : d < c.M) : d + 1 ≤ nextD c d := by
  refine Nat.le_min.mpr ⟨(Nat.le_div_iff_mul_le hd).mpr ?_, hM⟩
  -- (d+1)·mden = d·mden + mden ≤ d·mden + (mnum−mden)·d = d·mnum
  have h3 : d * c.mnum = d * c.mden + (c.mnum - c.mden) * d := by
    rw [Nat.mul_comm (c.mnum - c.mden) d, ← Nat.mul_add, Nat.add_sub_cancel' (mden_le_mnum c hd hg)]
  rw [h3, Nat.add_mul, Nat.one_mul]
  exact Nat.add_le_add_left (Nat.le_trans hg (Nat.mul_le_mul_left _ hI)) _

theorem dseq_lower (c : Cfg) (hd : 0 < c.mden) (hg : c.mden ≤ (c.mnum - c.mden) * c.I) (hIM : c.I ≤ c.M) :
    ∀ k, c.I + k ≤ dseq c k ∨ dseq c k = c.M
  | 0 => Or.inl (Nat.le_refl _)
  | k + 1 => by
    have hcap := dseq_cap_absorbing c (mden_le_mnum c hd hg) hd k
    rcases dseq_lower c hd hg hIM k with h | h
    · rcases Nat.lt_or_ge (dseq c k) c.M with hlt | hge
      · exact Or.inl (Nat.le_trans (Nat.succ_le_succ h)
          (nextD_grow c hd hg _ (Nat.le_trans (Nat.le_add_right _ _) h) hlt))
      · exact Or.inr (hcap (Nat.le_antisymm (dseq_le_max_all c hIM k) hge))
    · exact Or.inr (hcap h)

theorem dseq_reaches_cap (c : Cfg) (hd : 0 < c.mden) (hg : c.mden ≤ (c.mnum - c.mden) * c.I) (hIM : c.I ≤ c.M) :
    ∀ k, c.M - c.I ≤ k → dseq c k = c.M := by
  intro k hk
  rcases dseq_lower c hd hg hIM k with h | h
  · exact Nat.le_antisymm (dseq_le_max_all c hIM k) (Nat.le_trans (Nat.sub_le_iff_le_add'.mp hk) h)
  · exact h

theorem dseq_step_slack (c : Cfg) (hd : 0 < c.mden) (k : Nat) :
    dseq c (k + 1) = c.M ∨ dseq c k * c.mnum < (dseq c (k + 1) + 1) * c.mden := by
  simp only [dseq, nextD]
  rcases Nat.le_total (dseq c k * c.mnum / c.mden) c.M with h | h
  · right
    rw [Nat.min_eq_left h, Nat.mul_comm _ c.mden]
    exact Nat.lt_mul_div_succ _ hd
  · left; exact Nat.min_eq_right h

end MM.C31

/-
  C16 / C17 — facts about the association-list maps and the relay table (helpers for the Props).
-/
import MM.Model.C16
import MM.Lemmas.Assoc

namespace MM.C16

theorem Map.get_del_ne {m : Map} {k k' : Nat} (h : k' ≠ k) : (m.del k).get k' = m.get k' :=
  Assoc.lookup_filter_ne m h

theorem Map.get_del_same (m : Map) (k : Nat) : (m.del k).get k = none :=
  Assoc.lookup_filter_self m k

theorem Map.get_set_same (m : Map) (k : Nat) (e : Entry) : (m.set k e).get k = some e :=
  List.lookup_cons_self

theorem Map.get_set_ne {m : Map} {k k' : Nat} {e : Entry} (h : k' ≠ k) : (m.set k e).get k' = m.get k' :=
  Assoc.lookup_set_ne m e h

/-! A Go map has one binding per key: `m.keys.Nodup`. -/

def Map.keys (m : Map) : List Nat := m.map (·.1)

theorem Map.keys_del_sub (m : Map) (k x : Nat) (h : x ∈ (m.del k).keys) : x ∈ m.keys ∧ x ≠ k := by
  obtain ⟨kv, hm, rfl⟩ := List.mem_map.1 h
  obtain ⟨hm, hne⟩ := List.mem_filter.1 hm
  exact ⟨List.mem_map.2 ⟨kv, hm, rfl⟩, by simpa using hne⟩

theorem Map.nodup_del {m : Map} {k : Nat} (h : m.keys.Nodup) : (m.del k).keys.Nodup :=
  h.sublist (List.filter_sublist.map _)

theorem Map.nodup_set {m : Map} {k : Nat} {e : Entry} (h : m.keys.Nodup) : (m.set k e).keys.Nodup :=
  List.nodup_cons.2 ⟨fun hin => (Map.keys_del_sub m k k hin).2 rfl, Map.nodup_del h⟩

theorem Map.mem_iff_get {m : Map} {k : Nat} {e : Entry} (hn : m.keys.Nodup) : (k, e) ∈ m ↔ m.get k = some e := by
  refine ⟨fun h => ?_, fun h => ?_⟩
  · obtain ⟨s, t, rfl⟩ := List.append_of_mem h
    rw [Map.keys, List.map_append, List.nodup_append] at hn
    exact List.lookup_eq_some_iff.2 ⟨s, t, rfl, fun p hp => bne_iff_ne.2 fun hk =>
      hn.2.2 _ (List.mem_map_of_mem hp) _ List.mem_cons_self hk.symm⟩
  · obtain ⟨l₁, l₂, rfl, _⟩ := List.lookup_eq_some_iff.1 h
    simp

theorem Map.get_delAll (m : Map) (ks : List Nat) (k : Nat) :
    (m.delAll ks).get k = if k ∈ ks then none else m.get k := by
  unfold Map.delAll
  induction ks generalizing m with
  | nil => simp
  | cons a t ih =>
    rw [List.foldl_cons, ih]
    by_cases hka : k = a
    · simp [hka, Map.get_del_same]
    · simp [hka, Map.get_del_ne hka]

theorem Map.nodup_delAll {m : Map} {ks : List Nat} (h : m.keys.Nodup) : (m.delAll ks).keys.Nodup := by
  unfold Map.delAll
  induction ks generalizing m with
  | nil => exact h
  | cons a t ih => exact ih (Map.nodup_del h)

theorem Map.del_of_get_none {m : Map} {k : Nat} (h : m.get k = none) : m.del k = m :=
  List.filter_eq_self.2 fun kv hkv => by simpa [bne_comm] using List.lookup_eq_none_iff.1 h kv hkv

theorem Map.length_del {m : Map} {k : Nat} {e : Entry} (hn : m.keys.Nodup) (h : m.get k = some e) :
    (m.del k).length + 1 = m.length := by
  -- `m = s ++ (k, e) :: t` with no other binding of `k`, so `m.del k = s ++ t`
  obtain ⟨s, t, rfl, hs⟩ := List.lookup_eq_some_iff.1 h
  rw [Map.keys, List.map_append, List.map_cons, List.nodup_append, List.nodup_cons] at hn
  have ht : ∀ p ∈ t, (p.1 != k) = true := fun p hp => bne_iff_ne.2 fun hk =>
    hn.2.1.1 (hk ▸ List.mem_map_of_mem (f := (·.1)) hp)
  rw [Map.del, List.filter_append, List.filter_cons_of_neg (by simp), List.filter_eq_self.2 ht,
    List.filter_eq_self.2 fun p hp => bne_comm.trans (hs p hp), List.length_append, List.length_append, List.length_cons]
  rfl

/-! `relayTable` keeps every record in two maps, each keyed by one of the record's stream ids.  The
  invariant has two mirror-image halves; `Linked f g a b` is one of them. -/

def Linked (f g : Entry → Nat) (a b : Map) : Prop :=
  ∀ k e, a.get k = some e → f e = k ∧ b.get (g e) = some e

namespace Linked
variable {f g : Entry → Nat} {a b : Map}

theorem empty_of_empty (h : Linked f g a b) (hb : ∀ k, b.get k = none) (k : Nat) : a.get k = none :=
  Option.eq_none_iff_forall_ne_some.2 fun e he => nomatch (hb _).symm.trans (h k e he).2

theorem set (h : Linked f g a b) (e : Entry) (hb : b.get (g e) = none) :
    Linked f g (a.set (f e) e) (b.set (g e) e) := by
  intro k x hx
  by_cases hk : k = f e
  · subst hk
    cases (Map.get_set_same a _ e).symm.trans hx
    exact ⟨rfl, Map.get_set_same _ _ _⟩
  · rw [Map.get_set_ne hk] at hx
    obtain ⟨h1, h2⟩ := h k x hx
    have hne : g x ≠ g e := fun heq => by rw [heq, hb] at h2; cases h2
    exact ⟨h1, (Map.get_set_ne hne).trans h2⟩

/-- `e` sits under its own key and nowhere else, so deleting that key filters the map by `· != e`. -/
theorem get_del (h : Linked f g a b) {e : Entry} (he : a.get (f e) = some e) (k : Nat) :
    (a.del (f e)).get k = (a.get k).filter (· != e) := by
  by_cases hk : k = f e
  · rw [hk, Map.get_del_same, he, Option.filter_some, if_neg (by simp)]
  · rw [Map.get_del_ne hk]
    cases hx : a.get k with
    | none => rfl
    | some x => rw [Option.filter_some, if_pos (bne_iff_ne.2 fun hxe => hk (hxe ▸ (h k x hx).1).symm)]

theorem filter (h : Linked f g a b) {a' b' : Map} {q : Entry → Bool}
    (ha : ∀ k, a'.get k = (a.get k).filter q) (hb : ∀ k, b'.get k = (b.get k).filter q) : Linked f g a' b' := by
  intro k e hx
  obtain ⟨hx, hq⟩ := Option.filter_eq_some_iff.1 ((ha k).symm.trans hx)
  obtain ⟨h1, h2⟩ := h k e hx
  exact ⟨h1, by rw [hb, h2, Option.filter_some, if_pos hq]⟩

end Linked

theorem Table.route_up {t : Table} {id : Nat} {u : Entry} (hu : t.byUp.get id = some u) :
    t.route u.upPeer id = some (u.downPeer, u.downId) := by
  simp [Table.route, hu]

theorem Table.route_down {t : Table} {id : Nat} {d : Entry} (hd : t.byDown.get id = some d)
    (hu : ∀ u, t.byUp.get id = some u → u.upPeer ≠ d.downPeer) : t.route d.downPeer id = some (d.upPeer, d.upId) := by
  unfold Table.route
  simp only [hd, if_true]
  split
  · next u h => simp [hu u h]
  · rfl

theorem Table.popMatchingPeer_cases (t : Table) (id peer : Nat) :
    t.popMatchingPeer id peer = (t, none) ∨
      ∃ e d, t.popMatchingPeer id peer = (t.delete e, some (e, d)) ∧
        (t.byUp.get id = some e ∨ t.byDown.get id = some e) := by
  fun_cases Table.popMatchingPeer t id peer
  · next up hup _ => exact .inr ⟨up, true, rfl, .inl hup⟩
  · next down hdown _ => exact .inr ⟨down, false, rfl, .inr hdown⟩
  · exact .inl rfl
  · exact .inl rfl
  · next down hdown _ => exact .inr ⟨down, false, rfl, .inr hdown⟩
  · exact .inl rfl
  · exact .inl rfl

end MM.C16

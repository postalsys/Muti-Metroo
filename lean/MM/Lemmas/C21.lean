/-
  Helper lemmas for C21: what a hit in a credential map says about the user list.
-/
import MM.Model.C21
namespace MM.C21

theorem lookup_some {m : List (Bytes × Bytes)} {k v : Bytes} (h : lookup m k = some v) : (k, v) ∈ m := by
  unfold lookup at h
  obtain ⟨kv, hf, rfl⟩ := Option.map_eq_some_iff.mp h
  have hk : kv.1 = k := by simpa using List.find?_some hf
  rw [← hk]
  exact List.mem_reverse.mp (List.mem_of_find?_eq_some hf)

theorem lookup_users {users : List User} {p : User → Bool} {f : User → Bytes} {k v : Bytes}
    (h : lookup ((users.filter p).map fun u => (u.name, f u)) k = some v) :
    ∃ u ∈ users, p u = true ∧ u.name = k ∧ f u = v := by
  obtain ⟨u, hu, e⟩ := List.mem_map.mp (lookup_some h)
  obtain ⟨hm, hp⟩ := List.mem_filter.mp hu
  injection e with e1 e2
  exact ⟨u, hm, hp, e1, e2⟩

end MM.C21

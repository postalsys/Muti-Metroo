/-
  C10 — atomic-step tie for all four route tables: every maintenance operation is one critical
  section under the write lock (see Props/C08Lock.lean, Props/C09Lock.lean).
-/
import MM.Lemmas.C08
import MM.Props.C08Lock
import MM.Props.C09Lock

namespace MM.C08

theorem C10_atomic_steps :
    (stepsAtomic Gen.LockC08.acquisitions Gen.LockC08.accesses Gen.LockC08.calls
      ["Table.AddRoute", "Table.RemoveRoute", "Table.RemoveRoutesFromPeer",
       "Table.CleanupStaleRoutes", "Table.Clear"] ["Table.Lookup"] = true) ∧
    (stepsAtomic Gen.LockC09d.acquisitions Gen.LockC09d.accesses Gen.LockC09d.calls
      ["DomainTable.AddRoute", "DomainTable.RemoveRoute", "DomainTable.RemoveRoutesFromPeer",
       "DomainTable.CleanupStaleRoutes", "DomainTable.Clear"] ["DomainTable.Lookup"] = true) ∧
    (stepsAtomic Gen.LockC09f.acquisitions Gen.LockC09f.accesses Gen.LockC09f.calls
      ["ForwardTable.AddRoute", "ForwardTable.RemoveRoute", "ForwardTable.RemoveRoutesFromPeer",
       "ForwardTable.CleanupStaleRoutes", "ForwardTable.Clear"] ["ForwardTable.Lookup"] = true) ∧
    (stepsAtomic Gen.LockC09a.acquisitions Gen.LockC09a.accesses Gen.LockC09a.calls
      ["AgentTable.AddRoute", "AgentTable.RemoveRoute", "AgentTable.RemoveRoutesFromPeer",
       "AgentTable.CleanupStaleRoutes", "AgentTable.Clear"] ["AgentTable.Lookup"] = true) :=
  ⟨stepsAtomic_fewer_readers (by simp) C08_atomic_steps,
   stepsAtomic_fewer_readers (by simp) MM.C09.C09_atomic_steps_domain,
   stepsAtomic_fewer_readers (by simp) MM.C09.C09_atomic_steps_forward,
   stepsAtomic_fewer_readers (by simp) MM.C09.C09_atomic_steps_agent⟩

end MM.C08

/-
  C17 — Tunnel bookkeeping returns to empty once tunnels and peers are gone.

  "After all tunnels have closed or their peers have disconnected, no relay entry, exit or forward
   connection record, or connection counter remains for them. Connection limits are therefore never
   consumed by tunnels that no longer exist."

  Two models: the relay table / `handlePeerDisconnect` (MM/Model/C16.lean) and the exit / forward
  handler bookkeeping (MM/Model/C17.lean).

  * relay tables, repaired code (`cleanAll = true`): after a peer disconnect no index of any of the
    three tables (TCP, UDP, ICMP) holds a record of that peer and the tables stay consistent, hence
    free of orphans (`C17_disconnect_clean`, `C17_no_orphans`) — under index consistency, which
    `Distinct` guarantees (MM/Props/C16.lean).  The pinned code cleaned only the TCP table
    (`C17_pinned_udp_leak`, repaired by fixes/C17-clean-udp-icmp-relays-on-disconnect.patch).
  * exit/forward handlers (repaired by fixes/C17-teardown-compares-record.patch): `connCount =
    len(connections)` is an invariant of EVERY history (`C17_count_matches`), so an empty map means a
    zero counter (`C17_handlers_return_to_empty`), and a read loop that ends late removes only its own
    record (`C17_late_teardown_spares_newer_record`).
  * the relay table still leaves an orphan under a bare-id collision (`C17_refuted_relay_orphan`,
    known finding shared with C16).
-/
import MM.Props.C16
import MM.Model.C17

namespace MM.C17
open MM.C16 MM.C16.Table

/-! ### relay tables -/

theorem deleteByPeer_get {t : Table} (hc : Consistent t) (p k : Nat) :
    (t.deleteByPeer p).1.byUp.get k = (t.byUp.get k).filter (fun e => !involves p e) ∧
    (t.deleteByPeer p).1.byDown.get k = (t.byDown.get k).filter (fun e => !involves p e) := by
  have hit : ∀ kv, kv ∈ t.byUp.filter (fun kv => involves p kv.2) ↔
      t.byUp.get kv.1 = some kv.2 ∧ involves p kv.2 = true :=
    fun kv => by rw [List.mem_filter, Map.mem_iff_get hc.nodupUp]
  have up : k ∈ (t.byUp.filter (fun kv => involves p kv.2)).map (·.1) ↔
      ∃ e, t.byUp.get k = some e ∧ involves p e = true := by
    simp only [List.mem_map, hit]
    exact ⟨fun ⟨kv, h, hk⟩ => ⟨kv.2, hk ▸ h⟩, fun ⟨e, h⟩ => ⟨(k, e), h, rfl⟩⟩
  -- `DeleteByPeer` walks `byUpstream` only: the downstream keys it deletes are found through the records
  have down : k ∈ (t.byUp.filter (fun kv => involves p kv.2)).map (·.2.downId) ↔
      ∃ e, t.byDown.get k = some e ∧ involves p e = true := by
    simp only [List.mem_map, hit]
    exact ⟨fun ⟨kv, ⟨h1, h2⟩, hk⟩ => ⟨kv.2, hk ▸ (hc.up _ _ h1).2, h2⟩,
      fun ⟨e, he, hi⟩ => ⟨(e.upId, e), ⟨(hc.down k e he).2, hi⟩, (hc.down k e he).1⟩⟩
  have asFilter : ∀ o : Option Entry, (if ∃ e, o = some e ∧ involves p e = true then none else o) =
      o.filter (fun e => !involves p e) := by
    rintro (_ | e)
    · simp
    · cases h : involves p e <;> simp [Option.filter, h]
  simp only [deleteByPeer, Map.get_delAll, up, down, asFilter, and_self]

/-- On a consistent table `DeleteByPeer p` removes exactly the records that involve `p`, from both
    indices, and keeps the table consistent. -/
theorem C17_disconnect_clean {t : Table} (hc : Consistent t) (p : Nat) :
    Consistent (t.deleteByPeer p).1 ∧
    (∀ k e, (t.deleteByPeer p).1.byUp.get k = some e → involves p e = false) ∧
    (∀ k e, (t.deleteByPeer p).1.byDown.get k = some e → involves p e = false) ∧
    (∀ e, Live t e → involves p e = false → Live (t.deleteByPeer p).1 e) := by
  have up := fun k => (deleteByPeer_get hc p k).1
  have down := fun k => (deleteByPeer_get hc p k).2
  refine ⟨⟨Map.nodup_delAll hc.nodupUp, Map.nodup_delAll hc.nodupDown,
    hc.linkedUp.filter up down, hc.linkedDown.filter down up⟩, fun k e hx => ?_, fun k e hx => ?_, fun e hl hni => ?_⟩
  · rw [up] at hx
    simpa using (Option.filter_eq_some_iff.1 hx).2
  · rw [down] at hx
    simpa using (Option.filter_eq_some_iff.1 hx).2
  · rw [Live, up, hl, Option.filter_some, hni]
    rfl

/-- A consistent table has no orphans: when no upstream binding is left, no downstream binding is
    left either (and vice versa). -/
theorem C17_no_orphans {t : Table} (hc : Consistent t) :
    ((∀ k, t.byUp.get k = none) → ∀ k, t.byDown.get k = none) ∧
    ((∀ k, t.byDown.get k = none) → ∀ k, t.byUp.get k = none) :=
  ⟨hc.linkedDown.empty_of_empty, hc.linkedUp.empty_of_empty⟩

/-- In the relay table a bare-id collision leaves an orphan after both peers are gone: `DeleteByPeer`
    walks `byUpstream` only. -/
theorem C17_refuted_relay_orphan :
    let t := ([⟨1, 1, 4, 1⟩, ⟨2, 1, 4, 3⟩] : List Entry).foldl Table.insert {}
    let t' := ((t.deleteByPeer 1).1.deleteByPeer 2).1
    t'.byUp = [] ∧ t'.byDown.get 1 = some ⟨1, 1, 4, 1⟩ := by
  decide

/-- Repaired `handlePeerDisconnect`: all three relay tables are cleaned. -/
theorem C17_agent_disconnect_clean (a : Agent) (hca : a.cleanAll = true)
    (h1 : Consistent a.tcp) (h2 : Consistent a.udp) (h3 : Consistent a.icmp) (p : Nat) :
    ∀ kd : Kind, Consistent ((a.disconnect p).table kd) ∧
      ∀ k e, ((a.disconnect p).table kd).byUp.get k = some e ∨ ((a.disconnect p).table kd).byDown.get k = some e →
        involves p e = false := by
  intro kd
  obtain ⟨t, ht, heq⟩ : ∃ t, Consistent t ∧ (a.disconnect p).table kd = (t.deleteByPeer p).1 := by
    cases kd <;> simp only [Agent.disconnect, hca, if_true, Agent.table]
    · exact ⟨_, h1, rfl⟩
    · exact ⟨_, h2, rfl⟩
    · exact ⟨_, h3, rfl⟩
  obtain ⟨c, u, d, _⟩ := C17_disconnect_clean ht p
  exact heq ▸ ⟨c, fun k e h => h.elim (u k e) (d k e)⟩

/-- The pinned `cleanupRelaysForPeer` (TCP table only): a relayed UDP association of a vanished peer
    stays in `udpRelay` for ever. -/
theorem C17_pinned_udp_leak :
    let a : Agent := { cleanAll := false, peers := [(1, 2), (4, 1)] }
    let a1 := (a.relayOpen .udp 1 1 4).1
    (a1.disconnect 1).udp.byUp.get 1 = some ⟨1, 1, 4, 1⟩ ∧
    ({ a1 with cleanAll := true }.disconnect 1).udp.byUp.get 1 = none := by
  decide

/-- **UDP_CLOSE always reaches the relay table**, whatever exit-side associations this agent holds
    under the same stream id: the relayed association's entry is popped (so it cannot stay behind once
    the tunnel is closed). -/
theorem C17_udp_close_pops_relay (a : Agent) (peer id : Nat) :
    (a.udpClose peer id).1.udp = (a.udp.popMatchingPeer id peer).1 := by
  unfold Agent.udpClose Agent.relayClose
  dsimp only [Agent.table]
  rcases a.udp.popMatchingPeer_cases id peer with h | ⟨e, d, h, _⟩
  · rw [h]
  · rw [h]; cases d <;> rfl

/-! ### exit / forward handler bookkeeping -/

/-- `connCount = len(connections)`, one binding per key. -/
structure CountOk (h : Handler) : Prop where
  nodup : h.conns.keys.Nodup
  count : h.count = h.conns.length

namespace CountOk
variable {h h' : Handler} (hc : CountOk h)
include hc

theorem del {k : Nat} {c : Conn} (hg : h.conns.get k = some c) (h1 : h'.conns = h.conns.del k)
    (h2 : h'.count = h.count - 1) : CountOk h' := by
  refine ⟨h1 ▸ Map.nodup_del hc.nodup, ?_⟩
  have := Map.length_del hc.nodup hg
  have := hc.count
  rw [h1, h2]
  omega

/-- A record is stored; the counter is incremented unless the key was bound (the displaced record's slot). -/
theorem set {k : Nat} {c : Conn} (h1 : h'.conns = h.conns.set k c)
    (h2 : h'.count = if (h.conns.get k).isSome then h.count else h.count + 1) : CountOk h' := by
  refine ⟨h1 ▸ Map.nodup_set hc.nodup, ?_⟩
  have := hc.count
  rw [h1, h2, Map.set, List.length_cons]
  cases hg : h.conns.get k with
  | none => rw [Map.del_of_get_none hg]; simp; omega
  | some old => have := Map.length_del hc.nodup hg; simp; omega

theorem closeConn (id p : Nat) : CountOk (h.closeConn id p).1 := by
  unfold Handler.closeConn
  fun_cases Handler.remove h id
  · next c hg => exact hc.del hg rfl rfl
  · exact hc

theorem closeRecord (c : Conn) : CountOk (h.closeRecord c).1 := by
  fun_cases Handler.closeRecord h c
  · next cur hg _ => exact hc.del hg rfl rfl
  -- only `dstOpen` differs, which `CountOk` does not read
  · exact { hc with }
  · exact { hc with }

theorem apply (o : Op) : CountOk (h.apply o).1 := by
  cases o with
  | opened id peer =>
    rw [Handler.apply]
    fun_cases Handler.opened h id peer
    · next old hg => exact hc.set rfl (by simp [hg])
    · next hg => exact hc.set rfl (by simp [hg])
  | openFail id peer => exact hc
  | data id p s =>
    rw [Handler.apply]
    fun_cases Handler.data h id p s
    -- no record; destination closed; write after `CloseWrite`; delivered; foreign key
    · exact hc
    · exact hc
    · exact hc.closeConn _ _
    · exact hc
    · exact hc.closeConn _ _
  | close id p => exact hc.closeConn _ _
  | dstEof c => exact closeRecord (h := { h with dstOpen := h.dstOpen.filter (· != c.serial) }) { hc with } c

end CountOk

/-- **Counter matches the map** for EVERY history of the repaired handlers — opens under ids that
    still have a record (reconnected peer, duplicate open, colliding peers) included. -/
theorem C17_count_matches (ops : List Op) :
    ∀ h : Handler, CountOk h → CountOk (h.run ops) := by
  induction ops with
  | nil => exact fun _ hc => hc
  | cons o os ih => exact fun _ hc => ih _ (hc.apply o)

/-- The statement for the handlers: whenever no connection record is left, the counter is zero —
    no connection limit is consumed by tunnels that no longer exist. -/
def C17_statement : Prop :=
  ∀ ops : List Op, (({} : Handler).run ops).conns = [] → (({} : Handler).run ops).count = 0

theorem C17_handlers_return_to_empty : C17_statement := by
  intro ops hempty
  have := (C17_count_matches ops {} ⟨List.nodup_nil, rfl⟩).count
  rw [this, hempty]; rfl

/-- **Teardown by record.**  A read loop that ends (destination EOF) removes only its own record:
    when the id meanwhile belongs to a newer record, that record — and the counter — are untouched. -/
theorem C17_late_teardown_spares_newer_record (h : Handler) (c cur : Conn)
    (hcur : h.conns.get c.id = some cur) (hne : cur.serial ≠ c.serial) :
    (h.dstEof c).1.conns = h.conns ∧ (h.dstEof c).1.count = h.count ∧ (h.dstEof c).2 = [.fin c.peer c.id] := by
  simp [Handler.dstEof, Handler.closeRecord, hcur, hne]

/-- The honest re-use: a peer reconnects and opens stream id 1 again while its earlier exit
    connection is still tracked; later the OLD destination closes.  The new tunnel survives and the
    counter is 1 (the pinned code counted 2 and let the old read loop delete the new record). -/
example :
    let h := (({} : Handler).run [.opened 1 1, .opened 1 1, .dstEof (Conn.mk' 1 1 0)])
    h.count = 1 ∧ (h.conns.get 1).map (·.serial) = some 1 := by decide

/-- Refused opens never consume a connection slot. -/
theorem C17_failed_open_keeps_count (h : Handler) (id peer : Nat) :
    (h.openFail id peer).1.count = h.count ∧ (h.openFail id peer).1.conns = h.conns := ⟨rfl, rfl⟩

/-- At the limit an open is refused and changes nothing. -/
theorem C17_limit (h : Handler) (id peer : Nat) (hm : h.max > 0) (hfull : h.count ≥ (h.max : Int)) :
    (h.tryOpen id peer) = (h, [.err peer id]) := by
  simp [Handler.tryOpen, Handler.openFail, hm, hfull]

/-- non-vacuity: a history that empties the map again (with a refused and a displacing open). -/
example : (({} : Handler).run [.opened 1 1, .openFail 1 2, .opened 1 2, .opened 3 2, .close 1 1,
    .dstEof (Conn.mk' 3 2 2)]).conns = [] := by decide

end MM.C17

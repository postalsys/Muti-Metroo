/-
  C09 / C10 — atomic-step tie for `DomainTable`, `ForwardTable`, `AgentTable`
  (facts regenerated by tools/lockshape.go into MM/Gen/LockC09{d,f,a}.lean on every run).
-/
import MM.Model.C08
import MM.Gen.LockC09d
import MM.Gen.LockC09f
import MM.Gen.LockC09a

namespace MM.C09
open MM.C08

theorem C09_atomic_steps_domain :
    stepsAtomic Gen.LockC09d.acquisitions Gen.LockC09d.accesses Gen.LockC09d.calls
      ["DomainTable.AddRoute", "DomainTable.RemoveRoute", "DomainTable.RemoveRoutesFromPeer",
       "DomainTable.CleanupStaleRoutes", "DomainTable.Clear"]
      ["DomainTable.Lookup", "DomainTable.HasRoute"] = true := by decide +kernel

theorem C09_atomic_steps_forward :
    stepsAtomic Gen.LockC09f.acquisitions Gen.LockC09f.accesses Gen.LockC09f.calls
      ["ForwardTable.AddRoute", "ForwardTable.RemoveRoute", "ForwardTable.RemoveRoutesFromPeer",
       "ForwardTable.CleanupStaleRoutes", "ForwardTable.Clear"]
      ["ForwardTable.Lookup", "ForwardTable.HasRoute"] = true := by decide +kernel

theorem C09_atomic_steps_agent :
    stepsAtomic Gen.LockC09a.acquisitions Gen.LockC09a.accesses Gen.LockC09a.calls
      ["AgentTable.AddRoute", "AgentTable.RemoveRoute", "AgentTable.RemoveRoutesFromPeer",
       "AgentTable.CleanupStaleRoutes", "AgentTable.Clear"]
      ["AgentTable.Lookup", "AgentTable.GetRoutesForAgent"] = true := by decide +kernel

end MM.C09

import MM.Lemmas.C11

/-
  C14 — origin re-announcements always refresh every receiver.

  Model = MM/Model/C11.lean.  Two things can make an agent ignore or not renew a genuine
  announcement `(o, s)` of origin `o`: its seen cache already holds the key `(o, s)`, or its table
  holds a copy of `o`'s route with a sequence number `≥ s` (AddRoute rejects "older" routes without
  refreshing them).  `C14_statement` says that neither is ever the case at the moment `o` announces:

    fresh   no agent's seen cache contains the new key;
    older   every stored copy of one of `o`'s routes, anywhere, has a smaller sequence number;

  and `C14_renews` shows that this is exactly what is needed: an agent that handles an announcement
  not older than its stored copies ends up with a copy carrying that announcement's sequence number
  for every advertised CIDR/domain/forward route (and `handle` forwards it after storing, unless the
  hop limit or a one-byte wire count stops it there).

  * `C14_refuted`: both parts fail after a full-table replay relayed by a third agent, because
    SendFullTable numbers another origin's routes with the REPLAYER's counter (open findings
    C14-replay-sequence-blocks-refresh, C14-replay-key-collision).
  * `C14_partial`: both parts hold in every history without third-party replays (`benignRun`): then
    every sequence number stored or cached for `o` anywhere was issued by `o` itself.
  "Reaches each connected agent" additionally needs reliable delivery (fairness): `C14_reaches_all`,
  proved with the convergence invariant in MM/Props/C12Conv.lean and exercised by the differential
  run (clean cases of engine c12).
-/
namespace MM.C14
open MM.C11

/-! ### sequence numbers never exceed the origin's own counter (benign histories) -/

structure SeqInv (s : Net) : Prop where
  flight : ∀ f, f ∈ s.flight → f.adv.seq ≤ (s.nodes f.adv.origin).seq
  seen : ∀ x o sq, (o, sq) ∈ (s.nodes x).seen → sq ≤ (s.nodes o).seq
  entries : ∀ x e, e ∈ (s.nodes x).entries → e.seq ≤ (s.nodes e.origin).seq

theorem seqInv_init (n mh : Nat) (L : Node → List RAd) : SeqInv (init n mh L) where
  flight := by intro f hf; cases hf
  seen := by
    intro x o sq h
    rw [show ((init n mh L).nodes x).seen = [] from initNode_seen x (L x)] at h
    cases h
  entries := by
    intro x e he
    obtain ⟨hl, hs⟩ := initNode_entries he
    rw [hl.2.1]
    exact hs

theorem seqInv_step {s : Net} {op : Op} (hI : SeqInv s) (hb : benignOp s op = true) :
    SeqInv (step s op) where
  flight := by
    intro f hf
    cases flight_step hf with
    | old h => exact seq_step_mono op (hI.flight f h)
    | ann _ hseq h | wdr _ _ _ hseq h => exact h.origin ▸ hseq
    | fwd a m hm _ _ _ _ hadv =>
      rw [hadv, fwdAdv_seq, fwdAdv_origin]
      exact seq_step_mono op (hI.flight _ hm)
    | rep ord hop _ hseq hadv => exact (benign_replay (hop ▸ hb) hadv).1 ▸ hseq
  seen := by
    intro x o sq h
    rcases seen_step h with h | ⟨f, hf, hk⟩
    · exact seq_step_mono op (hI.seen x o sq h)
    · obtain ⟨rfl, rfl⟩ := Prod.mk.inj hk
      exact seq_step_mono op (hI.flight f hf)
  entries := by
    intro x e he
    rcases entries_step he with h | ⟨a, m, hm, _, _, _, _, r, _, rfl⟩
    · exact seq_step_mono op (hI.entries x e h)
    · exact seq_step_mono op (hI.flight _ hm)

/-! ### the statement -/

/-- At any moment, for origin `o` with sequence counter `c`: no seen cache holds a key `(o, s)` with
    `s > c` — every number `o` will use for its next announcement(s) is still free — and every stored
    copy of a route of `o`, anywhere, carries a number `≤ c`, i.e. is older than the next announcement. -/
def FreshAt (st : Net) (o : Node) : Prop :=
  (∀ x sq, (st.nodes o).seq < sq → (o, sq) ∉ (st.nodes x).seen) ∧
  (∀ x e, e ∈ (st.nodes x).entries → e.origin = o → e.seq ≤ (st.nodes o).seq)

def C14_statement : Prop :=
  ∀ (n mh : Nat) (L : Node → List RAd) (ops : List Op) (o : Node), FreshAt (run (init n mh L) ops) o

theorem seqInv_run (n mh : Nat) (L : Node → List RAd) (ops : List Op)
    (hb : benignRun (init n mh L) ops = true) : SeqInv (run (init n mh L) ops) :=
  run_induction_benign (P := SeqInv) _ ops (seqInv_init n mh L) hb (fun _ _ hI hb => seqInv_step hI hb)

theorem C14_partial (n mh : Nat) (L : Node → List RAd) (ops : List Op)
    (hb : benignRun (init n mh L) ops = true) (o : Node) : FreshAt (run (init n mh L) ops) o :=
  have hI := seqInv_run n mh L ops hb
  ⟨fun x sq hlt h => Nat.not_le.2 hlt (hI.seen x o sq h), fun x e he ho => ho ▸ hI.entries x e he⟩

/-! ### why freshness is what matters: handling an announcement that is not older renews the copy -/

/-- `y` is a copy of route `(k, key)` of origin `o` with sequence number `sq`. -/
def IsCopy (k key o sq : Nat) (y : Entry) : Prop := y.kind = k ∧ y.key = key ∧ y.origin = o ∧ y.seq = sq

/-- An agent that gets past its cache, is not on the path and holds no copy newer than the
    announcement ends up, for every advertised CIDR / domain / forward route, with a copy carrying
    exactly the announcement's sequence number. -/
theorem C14_renews (mh : Nat) (peers : List Node) (self frm clock : Nat) (a : Adv) (st : NodeSt)
    (hwd : a.wd = false) (hacc : Accepts mh self a st) (hp : self ∉ a.path)
    (hold : ∀ y, y ∈ st.entries → y.origin = a.origin → y.seq ≤ a.seq) :
    ∀ r, r ∈ a.routes → r.kind ≠ 3 →
      ∃ y, y ∈ (handle mh peers self frm clock a st).1.entries ∧ IsCopy r.kind r.key a.origin a.seq y := by
  intro r hr hk
  rw [handle_accepts hwd hacc]
  obtain ⟨y, hy, h1, h2, h3, hle⟩ :=
    foldl_storeRoute_stores (frm := frm) (clock := clock) hp a.routes (mark a st) hr hk
  refine ⟨y, List.mem_append_left _ hy, h1, h2, h3, Nat.le_antisymm ?_ hle⟩
  -- not above `a.seq`: `y` is an old copy or one of the entries just built
  rcases mem_foldl_storeRoute (List.mem_append_left _ hy) with h | ⟨_, r', _, rfl⟩
  · exact hold y h h3
  · exact Nat.le_refl _

/-! ### refutation (open findings C14-replay-key-collision, C14-replay-sequence-blocks-refresh) -/

def exitAt0 : Node → List RAd := fun x => if x = 0 then [⟨0, 1, 0⟩] else []

/-- Agent 1 has announced twice (counter 2) when it replays its table to the new peer 2: origin 0's
    routes travel as `(0, 3)`.  Origin 0's next genuine announcement is `(0, 3)` as well. -/
def collisionOps : List Op := [
  .connect 0 1, .announce 0 [], .deliver 0 1 0, .announce 1 [], .announce 1 [],
  .connect 1 2, .replay 1 2 [], .deliver 1 2 0]

/-- Agent 1 has announced three times: the replay carries `(0, 4)`, above origin 0's counter 2. -/
def blockOps : List Op := [
  .connect 0 1, .announce 0 [], .deliver 0 1 0, .announce 1 [], .announce 1 [], .announce 1 [],
  .connect 1 2, .replay 1 2 [], .deliver 1 2 0]

theorem collision_witness :
    ((run (init 3 0 exitAt0) collisionOps).nodes 0).seq = 2 ∧
    (0, 3) ∈ ((run (init 3 0 exitAt0) collisionOps).nodes 2).seen := by decide +kernel

theorem block_witness :
    ((run (init 3 0 exitAt0) blockOps).nodes 0).seq = 2 ∧
    (⟨0, 1, 0, 1, 2, [1, 0], 4, 9⟩ : Entry) ∈ ((run (init 3 0 exitAt0) blockOps).nodes 2).entries := by decide +kernel

theorem C14_refuted : ¬ C14_statement := by
  intro h
  have := (h 3 0 exitAt0 collisionOps 0).1 2 3
  rw [collision_witness.1] at this
  exact this (by omega) collision_witness.2

/-- The second part fails independently of the first. -/
theorem C14_refuted_block : ¬ (∀ x e, e ∈ ((run (init 3 0 exitAt0) blockOps).nodes x).entries →
    e.origin = 0 → e.seq ≤ ((run (init 3 0 exitAt0) blockOps).nodes 0).seq) := by
  intro h
  have := h 2 _ block_witness.2 rfl
  rw [block_witness.1] at this
  revert this; decide

example : benignRun (init 3 0 exitAt0) collisionOps = false := by decide

/-- Vacuity of `C14_partial`: a benign history with several announcements and a duplicate. -/
def benignOps : List Op := [
  .connect 0 1, .replay 0 1 [], .connect 1 2, .announce 0 [], .deliver 0 1 1, .dup 1 2 0,
  .announce 0 [], .deliver 0 1 1, .deliver 1 2 0, .announce 1 []]

example : benignRun (init 3 0 exitAt0) benignOps = true := by decide
example : ((run (init 3 0 exitAt0) benignOps).nodes 2).entries.map (·.seq) = [3, 3] := by decide +kernel

end MM.C14

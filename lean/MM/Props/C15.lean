import MM.Lemmas.C11

/-
  C15 — route announcements do not travel beyond the configured hop limit.

  Model = MM/Model/C11.lean with `maxHops` = `FloodConfig.MaxHops` (the tree with
  fixes/C15-max-hops.patch; the wiring `cfg.Routing.MaxHops → FloodConfig.MaxHops` is tied by
  engine c15w through the real `agent.New`).  `config.Validate` admits 1..255, i.e. `maxHops > 0`.

  * `C15_beyond`    an agent that is more than `maxHops` hops from the origin (the advertisement it
                    receives has travelled `hopsOf a > maxHops` hops) neither stores nor forwards it.
  * `C15_at_limit`  at exactly `maxHops` hops it is not forwarded (it is still stored: `Accepts` only
                    excludes `hopsOf a > maxHops`).
  * `C15_statement` in every history (any topology — chains, rings, meshes longer than the limit —
                    any schedule, replays included): no stored route has a path longer than the
                    limit and no frame in flight carries one (SendFullTable does not replay a route
                    stored exactly at the limit — fixes/C15-wire-count-replay.patch).
  * `C15_no_wrap`   whatever the limit, no advertisement in flight lists more than 255 agents, so the
                    one-byte wire counts never wrap (before the repair a 256-agent replay at
                    max_hops = 255 was decoded as an EMPTY path and the hop count restarted).
-/
namespace MM.C15
open MM.C11

theorem C15_beyond (mh : Nat) (peers : List Node) (self frm clock : Nat) (a : Adv) (st : NodeSt)
    (hwd : a.wd = false) (hmh : mh > 0) (hfar : hopsOf a > mh) :
    (handle mh peers self frm clock a st).1.entries = st.entries ∧
    (handle mh peers self frm clock a st).2.1 = [] := by
  refine handle_cases mh peers self frm clock a st ?_ ?_ ?_ ?_
  · exact fun _ => ⟨rfl, rfl⟩
  · exact fun _ _ => ⟨rfl, rfl⟩
  · exact fun _ _ h => absurd (hwd ▸ h) Bool.false_ne_true
  · exact fun _ hacc => absurd ⟨hmh, hfar⟩ hacc.2.2

theorem C15_at_limit (mh : Nat) (peers : List Node) (self frm clock : Nat) (a : Adv) (st : NodeSt)
    (hwd : a.wd = false) (hmh : mh > 0) (hat : hopsOf a = mh) :
    (handle mh peers self frm clock a st).2.1 = [] := by
  rcases handle_outs mh peers self frm clock a st with h | ⟨_, _, hrel⟩
  · exact h
  · exact absurd ⟨hmh, Nat.le_of_eq hat.symm⟩ (hrel hwd).1

/-- Every agent enforces ITS OWN limit (agents of one mesh may be configured differently): what an
    agent with limit `h > 0` stores has a path of at most `h` agents, and so has everything it sends. -/
structure Inv (s : Net) : Prop where
  entries : ∀ x e, e ∈ (s.nodes x).entries → s.maxHops x > 0 → e.path.length ≤ s.maxHops x
  flight : ∀ f, f ∈ s.flight → (f.adv.wd = true → f.adv.path = []) ∧
    (s.maxHops f.src > 0 → f.adv.path.length ≤ s.maxHops f.src)

theorem inv_initH (n : Nat) (mh : Node → Nat) (L : Node → List RAd) : Inv (initH n mh L) where
  entries := by
    intro x e he _
    rw [(initNode_entries he).1.1]
    exact Nat.zero_le _
  flight := by intro f hf; cases hf

theorem inv_step {s : Net} {op : Op} (hI : Inv s) : Inv (step s op) where
  entries := by
    intro x e he hmh
    rw [step_maxHops] at hmh ⊢
    rcases entries_step he with h | ⟨a, m, _, _, _, hacc, _, r, _, rfl⟩
    · exact hI.entries x e h hmh
    · exact Nat.le_trans (path_le_hopsOf m) (Nat.not_lt.1 (fun h => hacc.2.2 ⟨hmh, h⟩))
  flight := by
    intro f hf
    rw [step_maxHops]
    cases flight_step hf with
    | old h => exact hI.flight f h
    | ann _ _ h => rw [h.wd, h.path]; exact ⟨nofun, fun hmh => hmh⟩
    | wdr _ _ _ _ h => rw [h.path]; exact ⟨fun _ => rfl, fun _ => Nat.zero_le _⟩
    | fwd a m hm _ _ _ hrel hadv =>
      rw [hadv, fwdAdv_wd]
      cases hwd : m.wd with
      | true =>
        have hp : (fwdAdv f.src m).path = [] := (fwdAdv_path_wd hwd).trans ((hI.flight _ hm).1 hwd)
        exact ⟨fun _ => hp, fun _ => by rw [hp]; exact Nat.zero_le _⟩
      | false =>
        refine ⟨nofun, fun hmh => ?_⟩
        rw [fwdAdv_path hwd]
        have hlt : hopsOf m < s.maxHops f.src := Nat.not_le.1 (fun h => (hrel hwd).1 ⟨hmh, h⟩)
        exact Nat.lt_of_le_of_lt (path_le_hopsOf m) hlt
    | rep _ _ _ _ hadv =>
      have h := mem_replayAdvs hadv
      rw [h.wd]
      exact ⟨nofun, fun hmh => Nat.le_trans h.plen ((hopCap_le _).2 hmh)⟩

/-- C15 for a mesh in which every agent has its own `routing.max_hops` (0 = none): in every
    reachable state an agent with limit `h ≥ 1` holds no route — CIDR, domain, forward or agent
    presence — whose path is longer than `h`, and no frame it sent (forwarded copy, announcement,
    table replay) carries one. In particular an agent that is handed an advertisement from beyond
    ITS limit by a neighbour with a larger limit stores nothing of it (`C15_beyond`). -/
theorem C15_holds_mixed (n : Nat) (mh : Node → Nat) (L : Node → List RAd) (ops : List Op) :
    (∀ x e, e ∈ ((run (initH n mh L) ops).nodes x).entries → mh x > 0 → e.path.length ≤ mh x) ∧
    (∀ f, f ∈ (run (initH n mh L) ops).flight → mh f.src > 0 → f.adv.path.length ≤ mh f.src) := by
  obtain ⟨he, hf⟩ : Inv (run (initH n mh L) ops) :=
    run_induction _ ops (inv_initH n mh L) (fun _ _ h => inv_step h)
  rw [run_maxHops] at he hf
  exact ⟨he, fun f hf' => (hf f hf').2⟩

/-- C15: with one configured limit `maxHops ≥ 1` for the whole mesh, in every reachable state no
    agent holds a route whose path is longer than the limit, and no frame in flight — forwarded
    copy, fresh announcement or table replay — carries a path of more than `maxHops` agents. -/
def C15_statement : Prop :=
  ∀ (n mh : Nat) (L : Node → List RAd) (ops : List Op), mh > 0 →
    (∀ x e, e ∈ ((run (init n mh L) ops).nodes x).entries → e.path.length ≤ mh) ∧
    (∀ f, f ∈ (run (init n mh L) ops).flight → f.adv.path.length ≤ mh)

theorem C15_holds : C15_statement := by
  intro n mh L ops hmh
  obtain ⟨h1, h2⟩ := C15_holds_mixed n (fun _ => mh) L ops
  exact ⟨fun x e he => h1 x e he hmh, fun f hf => h2 f hf hmh⟩

/-- The one-byte counts of the wire format never wrap: whatever the limit (even disabled), no
    ROUTE_ADVERTISE in flight lists more than 255 agents in its path or its seen-by list.
    (`floodAdvertisementEncrypted` stops forwarding at 255 entries, `SendFullTable` does not
    replay a path of more than min(max_hops, 255) agents — fixes/C15-wire-count-replay.patch.
    `floodWithdrawal` has no such guard, hence `wd = false`.) -/
theorem C15_no_wrap (n mh : Nat) (L : Node → List RAd) (ops : List Op) :
    ∀ f, f ∈ (run (init n mh L) ops).flight → f.adv.wd = false →
      f.adv.path.length ≤ 255 ∧ f.adv.seenBy.length ≤ 255 := by
  refine run_induction _ ops ?_ ?_
  · intro f hf; cases hf
  · intro s op hI f hf hw
    cases flight_step hf with
    | old h => exact hI f h hw
    | ann _ _ h => rw [h.path, h.seenBy]; simp
    | wdr _ _ _ _ h => exact absurd (h.wd ▸ hw) Bool.false_ne_true.symm
    | fwd a m hm _ _ _ hrel hadv =>
      rw [hadv, fwdAdv_wd] at hw
      rw [hadv, fwdAdv_path hw, fwdAdv_seenBy, List.length_cons, List.length_append]
      exact ⟨(hrel hw).2.2, (hrel hw).2.1⟩
    | rep _ _ _ _ hadv =>
      have h := mem_replayAdvs hadv
      rw [h.seenBy]
      exact ⟨Nat.le_trans h.plen (hopCap_le _).1, by simp⟩

/-- The statement is about something: on the chain 0-1-2-3-4 with limit 2 the announcement of agent
    0 is stored by agents 1 and 2, agent 2 does not forward it, agents 3 and 4 never see it. -/
def chainOps : List Op := [
  .connect 0 1, .connect 1 2, .connect 2 3, .connect 3 4,
  .announce 0 [], .deliver 0 1 0, .deliver 1 2 0, .deliver 2 3 0, .deliver 3 4 0]

def exitAt0 : Node → List RAd := fun x => if x = 0 then [⟨0, 1, 0⟩] else []

example : (((run (init 5 2 exitAt0) chainOps).nodes 2).entries.map (·.path)) = [[1, 0], [1, 0]] := by decide +kernel
example : ((run (init 5 2 exitAt0) chainOps).nodes 3).entries = [] := by decide +kernel
example : (run (init 5 2 exitAt0) chainOps).flight = [] := by decide +kernel

end MM.C15

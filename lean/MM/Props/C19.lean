/-
  C19 — Exit agents only connect to permitted destinations.

  "An exit agent opens an outbound TCP connection only when the destination lies in one of its
   configured exit networks, one of its currently present dynamic routes, or matches an allowed
   domain pattern.  This holds for any crafted open request and any sequence of dynamic route
   additions, updates and removals.  With nothing configured, nothing is permitted."

  Model: MM/Model/C19.lean, of the code AS FIXED by fixes/C19-idempotent-allowed-route.patch.
  Before the fix `AddAllowedRoute` appended unconditionally, so `add X; add X; remove X` left a
  copy of X in the allow list with no route present (witness kept in corpus/C19, known/C19.json).
-/
import MM.Lemmas.C19
import MM.Gen.LockC19a
import MM.Gen.LockC19h
import MM.Gen.LockC19m

namespace MM.C19

/-- State after any sequence of route-management operations and opens on a freshly initialised
    agent. -/
def after (exitEnabled : Bool) (cfgNets : List Net) (pats : List Bytes) (ops : List Op) : St :=
  run (init exitEnabled cfgNets pats) ops

theorem inv_after (exitEnabled : Bool) (cfgNets : List Net) (pats : List Bytes) (ops : List Op) :
    Inv (baseOf exitEnabled cfgNets) (after exitEnabled cfgNets pats ops) :=
  inv_run (inv_init exitEnabled cfgNets pats) ops

/-- The networks of the dynamic routes currently present in the routing manager. -/
def dynNets (s : St) : List Net := s.dyn.map (·.2.1)

/-- **The allow list mirrors configuration ∪ dynamic routes** after ANY add / update / remove
    sequence: no handler ⇒ no dynamic route; otherwise the allow list is, key for key and in order,
    the configured exit networks followed by exactly one entry per dynamic route present. -/
theorem C19_allow_list_mirrors (exitEnabled : Bool) (cfgNets : List Net) (pats : List Bytes)
    (ops : List Op) :
    match (after exitEnabled cfgNets pats ops).allowed with
    | none => (after exitEnabled cfgNets pats ops).dyn = []
    | some rs =>
      rs.map Net.key = (baseOf exitEnabled cfgNets).map Net.key ++
        (dynNets (after exitEnabled cfgNets pats ops)).map Net.key := by
  have hinv := inv_after exitEnabled cfgNets pats ops
  have hm := hinv.mirror
  unfold dynNets
  rw [hinv.dynNets_keys]
  generalize (after exitEnabled cfgNets pats ops).allowed = allowed at hm ⊢
  cases allowed with
  | none =>
    -- no handler: the allow list counts as empty, so there is no dynamic key
    exact List.map_eq_nil_iff.mp (List.append_eq_nil_iff.mp hm.symm).2
  | some rs => exact hm

/-- What the statement calls "permitted": the address lies in a configured exit network (exit
    enabled) or in the network of a dynamic route that is present now. -/
def permittedIP (exitEnabled : Bool) (cfgNets : List Net) (s : St) (ip : Bytes) : Prop :=
  (∃ n ∈ baseOf exitEnabled cfgNets, n.contains ip = true) ∨ (∃ n ∈ dynNets s, n.contains ip = true)

theorem isAllowed_permitted {exitEnabled : Bool} {cfgNets : List Net} {pats : List Bytes}
    {ops : List Op} {rs : List Net} {ip : Bytes}
    (ha : (after exitEnabled cfgNets pats ops).allowed = some rs) (h : isAllowed rs ip = true) :
    permittedIP exitEnabled cfgNets (after exitEnabled cfgNets pats ops) ip := by
  have hm := C19_allow_list_mirrors exitEnabled cfgNets pats ops
  rw [ha] at hm
  dsimp only at hm
  unfold isAllowed at h
  split at h
  · cases h
  · obtain ⟨r, hr, hc⟩ := List.any_eq_true.mp h
    -- some network with the key of `r` is configured or dynamic, and `Contains` depends on the key only
    have hk := List.mem_map_of_mem (f := Net.key) hr
    rw [hm, ← List.map_append] at hk
    obtain ⟨n, hn, hnk⟩ := List.mem_map.mp hk
    have hcn := (contains_of_key_eq hnk ip).trans hc
    exact (List.mem_append.mp hn).imp (fun h => ⟨n, h, hcn⟩) (fun h => ⟨n, h, hcn⟩)

/-- **Dial ⇒ permitted**, for any crafted destination after any operation sequence: the dialled
    address is the literal / resolved address of the request and it lies in a configured exit
    network or a currently present dynamic route, or the requested NAME matches an allowed domain
    pattern (only possible when the exit is enabled in the configuration). -/
theorem C19_dial_permitted (exitEnabled : Bool) (cfgNets : List Net) (pats : List Bytes)
    (ops : List Op) (d : Dest) (ip : Bytes)
    (h : openDest (after exitEnabled cfgNets pats ops) d = .dial ip) :
    (d = .ip ip ∨ ∃ nm, d = .name nm (some ip)) ∧
    (permittedIP exitEnabled cfgNets (after exitEnabled cfgNets pats ops) ip ∨
      ∃ nm, d = .name nm (some ip) ∧ exitEnabled = true ∧
        isDomainAllowed (pats.map parsePattern) nm = true) := by
  revert h
  -- two branches dial: an allowed IP literal (`case2`), a resolved name (`case5`)
  fun_cases openDest (after exitEnabled cfgNets pats ops) d with
  | case1 | case3 | case4 | case6 => nofun
  | case2 rs ha b hal =>
    intro h; cases h
    exact ⟨Or.inl rfl, Or.inl (isAllowed_permitted ha hal)⟩
  | case5 rs ha nm domainAllowed b hor =>
    intro h; cases h
    refine ⟨Or.inr ⟨nm, rfl⟩, ?_⟩
    rcases Bool.or_eq_true_iff.mp hor with hd | hal
    · -- the patterns are those of the configuration: `run` never touches them
      rw [show domainAllowed = isDomainAllowed _ nm from rfl, after, run_domains] at hd
      cases exitEnabled with
      | false => simp [isDomainAllowed, init] at hd
      | true => exact Or.inr ⟨nm, rfl, rfl, by simpa [init] using hd⟩
    · exact Or.inl (isAllowed_permitted ha hal)

/-- **With nothing configured, nothing is permitted**: no exit networks, no domain patterns and no
    dynamic route present (whatever was added and removed before) ⇒ no destination is dialled. -/
theorem C19_empty_denies (exitEnabled : Bool) (ops : List Op) (d : Dest) (ip : Bytes)
    (hdyn : (after exitEnabled [] [] ops).dyn = []) :
    openDest (after exitEnabled [] [] ops) d ≠ .dial ip := by
  intro h
  -- permitted by a configured network, by a dynamic route, or by a domain pattern: there is none of each
  obtain ⟨_, (⟨n, hn, _⟩ | ⟨n, hn, _⟩) | ⟨nm, _, _, hd⟩⟩ :=
    C19_dial_permitted exitEnabled [] [] ops d ip h
  · cases exitEnabled <;> simp [baseOf] at hn
  · simp [dynNets, hdyn] at hn
  · simp [isDomainAllowed] at hd

/-- A removed dynamic route stops being permitted — however often it had been added or updated:
    after `remove X` succeeds, X is not among the dynamic routes (so by `C19_dial_permitted` only
    the configuration can still permit its addresses). -/
theorem C19_removed_is_gone (exitEnabled : Bool) (cfgNets : List Net) (pats : List Bytes)
    (ops : List Op) (x : Net)
    (hok : (remove (after exitEnabled cfgNets pats ops) x).2 = .ok) :
    x.key ∉ (dynNets (after exitEnabled cfgNets pats (ops ++ [.remove x]))).map Net.key := by
  unfold dynNets
  rw [(inv_after exitEnabled cfgNets pats (ops ++ [Op.remove x])).dynNets_keys]
  have hstep : after exitEnabled cfgNets pats (ops ++ [.remove x]) =
      (remove (after exitEnabled cfgNets pats ops) x).1 := by
    unfold after run; rw [List.foldl_append]; rfl
  rw [hstep]
  revert hok
  -- `case1`: the remove is refused, its outcome an error; `case2`: the filter drops the key of `x`
  fun_cases remove (after exitEnabled cfgNets pats ops) x with
  | case1 => intro hok; split at hok <;> cases hok
  | case2 =>
    intro _
    rw [keys_filter]
    simp +zetaDelta

/-! ### concurrent ManageRoute calls

  `add` / `remove` above are ONE step each.  In the code each is two single-lock steps (routing
  manager, then exit handler).  `ManageRoute` is called concurrently (HTTP API, control requests
  from peers).  Unserialized, the steps of two calls interleave and the mirror breaks
  (`C19_unserialized_refuted`; shown on the real code by the harness's `sched` op, which holds one
  call at the scheduling point between its steps).  The code AS FIXED by
  fixes/C19-serialize-manage-route.patch holds `Agent.routeManageMu` over the whole call, so every
  concurrent history of ManageRoute calls is a sequence of the atomic `add`/`remove` above in lock
  order, and the theorems above apply to it.  That the source has this shape is regenerated on every
  run by tools/lockshape.go (MM/Gen/LockC19*.lean) and decided here. -/

/-- The two steps compose to the atomic operation (so the micro-step model and `add` agree). -/
theorem add_is_two_steps (s : St) (n : Net) (m : Nat) :
    (add s n m).1 = (if (mAddStep s n m).2 then hAddStep (mAddStep s n m).1 n else s) := by
  unfold add mAddStep hAddStep
  by_cases h : s.cfgKeys.contains n.key ∧ ¬ dynHas s.dyn n.key
  · rw [if_pos h, if_pos h]; rfl
  · rw [if_neg h, if_neg h]; rfl

theorem remove_is_two_steps (s : St) (n : Net) :
    (remove s n).1 = (if (mRemoveStep s n).2 then hRemoveStep (mRemoveStep s n).1 n else s) := by
  unfold remove mRemoveStep hRemoveStep
  by_cases h : ¬ dynHas s.dyn n.key
  · rw [if_pos h, if_pos h]; rfl
  · rw [if_neg h, if_neg h]; rfl

/-- What would hold if interleaved steps were harmless: after `add X ∥ remove X` have both
    finished the allow list mirrors the dynamic routes — stated for the one interleaving of their
    steps that breaks it. -/
def C19_unserialized_statement : Prop :=
  ∀ (x : Net),
    -- the interleaving  add.1 ; remove.1 ; remove.2 ; add.2
    let s0 := init false [] []
    let s1 := (mAddStep s0 x 5).1
    let s2 := (mRemoveStep s1 x).1
    let s3 := hRemoveStep s2 x
    let s4 := hAddStep s3 x
    (s4.allowed.getD []).map Net.key = (dynNets s4).map Net.key

/-- Refuted: that interleaving leaves X in the allow list with no dynamic route. -/
theorem C19_unserialized_refuted : ¬ C19_unserialized_statement := by
  intro h
  have := h (mkNet [127, 1, 0, 0] 16)
  revert this
  decide

/-- Lock shape of `Agent.ManageRoute` (fixed code): one acquisition of `routeManageMu`, and every use
    of the routing manager, of the exit handler and of `ensureExitHandler` happens while it is held:
    the two steps are inside ONE critical section. -/
theorem C19_manage_route_atomic :
    Gen.LockC19a.acquisitions = [("Agent.ManageRoute", 1)] ∧
    Gen.LockC19a.accesses.all (fun a => a.2.2.2 == "W") = true ∧
    Gen.LockC19a.calls.all (fun c => c.2.2 == "W") = true ∧
    Gen.LockC19a.regions.all (fun r => r.2.2 == 1) = true ∧
    (Gen.LockC19a.accesses.any (fun a => a.2.1 == "routeMgr") &&
      Gen.LockC19a.accesses.any (fun a => a.2.1 == "exitHandler") &&
      Gen.LockC19a.calls.any (fun c => c.2.1 == "ensureExitHandler")) = true := by decide +kernel

/-- Lock shape of the two steps and of the readers: every access to the allow list
    (`Handler.cfg` in these methods) and to the manager's route maps is inside the method's single
    critical section — writers under the write lock, readers (`isAllowed`, `GetDynamicRoutes`) under
    the read lock — so each is one atomic step of the model.  (Only the manager's `notifyChange`
    runs outside it, once the lock is released.) -/
theorem C19_steps_atomic :
    Gen.LockC19h.acquisitions.all (fun a => a.2 == 1) = true ∧
    Gen.LockC19h.accesses.all (fun a => (a.2.2.2 == "W") || (a.2.2.1 == false && a.2.2.2 == "R")) = true ∧
    Gen.LockC19h.acquisitions.map (·.1) =
      ["Handler.AddAllowedRoute", "Handler.AllowedRouteCount", "Handler.RemoveAllowedRoute", "Handler.isAllowed"] ∧
    Gen.LockC19m.acquisitions.all (fun a => a.2 == 1) = true ∧
    Gen.LockC19m.accesses.all (fun a => (a.2.2.2 == "W") || (a.2.2.1 == false && a.2.2.2 == "R")) = true ∧
    Gen.LockC19m.regions.all (fun r => r.2.2 == 1 || r.2.1 == "call:notifyChange") = true := by
  decide +kernel

/-! ### concrete instances (non-vacuity and the former defect) -/

def netA : Net := mkNet [127, 1, 0, 0] 16      -- 127.1.0.0/16
def netB : Net := mkNet [10, 0, 0, 0] 8         -- 10.0.0.0/8

/-- add X, add X (metric update), remove X: X is no longer permitted. -/
example : openDest (after false [] [] [.add netA 5, .add netA 7, .remove netA]) (.ip [127, 1, 2, 3]) = .denied := by
  decide
/-- … while it is permitted as long as the route is present, and config routes stay. -/
example : openDest (after false [] [] [.add netA 5, .add netA 7]) (.ip [127, 1, 2, 3]) = .dial [127, 1, 2, 3] := by
  decide
example : openDest (after true [netB] [] [.add netA 5, .remove netA]) (.ip [10, 9, 8, 7]) = .dial [10, 9, 8, 7] := by
  decide
/-- An IPv4-mapped destination is matched against IPv4 networks. -/
example : openDest (after true [netB] [] []) (.ip [0,0,0,0,0,0,0,0,0,0,0xff,0xff,10,1,1,1]) =
    .dial [0,0,0,0,0,0,0,0,0,0,0xff,0xff,10,1,1,1] := by decide

end MM.C19

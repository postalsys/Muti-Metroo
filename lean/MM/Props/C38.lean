/-
  C38 — Stream identifiers are unique per connection and parity-separated by role.

  "Every stream identifier a connection allocates is nonzero and unique for that connection,
   under any amount of concurrency.  Identifiers are odd on the dialing side and even on the
   accepting side, so the two ends of a connection never allocate the same one."

  Quantified over ALL schedules (any number of goroutines, any interleaving of their atomic
  `Add` steps) of fewer than 2^63 allocations per end.  Model: MM/Model/C38.lean; start values
  and increment regenerated from the compiled package (MM/Gen/C38.lean); atomicity of `Next`
  tied by the AST check and the concurrent stress run in props/C38.py.
-/
import MM.Lemmas.C38
import MM.Gen.C38Sites

namespace MM.C38

/-- Constants of the source are the ones the statement is about. -/
theorem C38_tie : Gen.C38.startDialer = 1 ∧ Gen.C38.startListener = 2 ∧ Gen.C38.delta = 2 := by decide

/-- WHO allocates: every place in the code base that builds an outgoing stream-opening frame
    (STREAM_OPEN, UDP_OPEN, ICMP_OPEN — regenerated list, go/ast over internal/ and cmd/) takes
    the frame's stream id from `<connection>.NextStreamID()` in the same function, i.e. from the
    one allocator of the connection the theorems below are about.  A second source of ids for a
    connection (a separate counter, arithmetic) breaks this. -/
theorem C38_open_sites_allocated :
    Gen.C38Sites.openSites ≠ [] ∧ ∀ s ∈ Gen.C38Sites.openSites, s.source = "NextStreamID" := by decide

/-- Which goroutine obtains which id depends on the schedule; the SET of ids does not:
    `n` allocations always yield exactly `start, start+2, …, start+2(n-1)` (below 2^63 allocations
    nothing wraps). -/
theorem C38_ids_exact (isDialer : Bool) (sched : List Nat) (h : sched.length < 2^63) :
    ids isDialer sched = (List.range sched.length).map (fun k => start isDialer + 2 * k) := by
  unfold ids
  rw [run_ids _ (start_lt isDialer)]
  apply List.map_congr_left
  intro k hk
  have hk' := List.mem_range.mp hk
  have hs := start_le isDialer
  apply Nat.mod_eq_of_lt
  simp only [W_eq]
  omega

/-- Ids are handed out in strictly increasing order along the linearisation: whatever the
    schedule, a later atomic `Next` step returns a larger id than every earlier one (so each
    goroutine's own successive ids increase, and no id is ever handed out again later). -/
theorem C38_ids_increasing (isDialer : Bool) (sched : List Nat) (h : sched.length < 2^63) :
    (ids isDialer sched).Pairwise (· < ·) := by
  rw [C38_ids_exact isDialer sched h, List.pairwise_map]
  exact List.Pairwise.imp (fun {a b} (hab : a < b) => by omega) List.pairwise_lt_range

/-- For any interleaving of fewer than 2^63 `Next` calls on one allocator: the ids are pairwise
    distinct, non-zero, representable, and odd for the dialer / even for the listener. -/
theorem C38_unique_nonzero_parity (isDialer : Bool) (sched : List Nat) (h : sched.length < 2^63) :
    (ids isDialer sched).Nodup ∧
    ∀ x ∈ ids isDialer sched, x ≠ 0 ∧ x < 2^64 ∧ x % 2 = (if isDialer then 1 else 0) := by
  refine ⟨(C38_ids_increasing isDialer sched h).imp Nat.ne_of_lt, ?_⟩
  rw [C38_ids_exact isDialer sched h]
  intro x hx
  obtain ⟨k, hk, rfl⟩ := List.mem_map.mp hx
  have hk' := List.mem_range.mp hk
  cases isDialer
  · rw [start_false]; simp; omega
  · rw [start_true]; simp; omega

theorem C38_ends_disjoint (schedD schedL : List Nat) (hD : schedD.length < 2^63) (hL : schedL.length < 2^63) :
    ∀ x ∈ ids true schedD, x ∉ ids false schedL := by
  intro x hx hx'
  have h1 := (C38_unique_nonzero_parity true schedD hD).2 x hx
  have h2 := (C38_unique_nonzero_parity false schedL hL).2 x hx'
  simp at h1 h2
  omega

/-- All identifiers in use on one connection — those of the dialing end together with those of
    the accepting end — are pairwise distinct. -/
theorem C38_connection_nodup (schedD schedL : List Nat) (hD : schedD.length < 2^63)
    (hL : schedL.length < 2^63) : (ids true schedD ++ ids false schedL).Nodup := by
  rw [List.nodup_append]
  refine ⟨(C38_unique_nonzero_parity true schedD hD).1, (C38_unique_nonzero_parity false schedL hL).1, ?_⟩
  rintro a ha b hb rfl
  exact C38_ends_disjoint schedD schedL hD hL a ha hb

/-- The bound is sharp (and astronomically out of reach): the 2^63-th allocation of the accepting
    side would wrap to 0. -/
theorem C38_bound_sharp (sched : List Nat) (h : sched.length = 2^63) : (0 : Nat) ∈ ids false sched := by
  unfold ids
  rw [run_ids _ (start_lt false), h]
  apply List.mem_map.mpr
  exact ⟨2^63 - 1, List.mem_range.mpr (by decide), by rw [start_false]; decide⟩

/-! Non-vacuity: a 3-goroutine schedule of 6 steps. -/
example : ids true [0, 1, 2, 2, 0, 1] = [1, 3, 5, 7, 9, 11] := by decide
example : run (start false) [7, 8, 7] = [(7, 2), (8, 4), (7, 6)] := by decide

end MM.C38

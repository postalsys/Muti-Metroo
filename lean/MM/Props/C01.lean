/-
  C01 — End-to-end sessions accept only fresh, authentic messages from the other end.

  "A tunnel endpoint accepts a data payload only if the opposite endpoint of the same session
   produced it, and accepts each such payload at most once and in increasing send order.  Anything
   injected, modified, reflected back to its sender, or replayed by a relay is rejected.  Rejected
   input never changes what the endpoint accepts afterwards."

  Model: MM/Model/C01.lean — `SessionKey.Encrypt/Decrypt` of internal/crypto/crypto.go after
  fixes/C01-session-replay-window.patch, tied to the code by the differential engine `c01`.
  Quantification: ALL traces of `encI | encR | delI p | delR p` from a fresh session pair, where a
  delivered `p` has any header (prefix, counter — including 2^64-1), any length, and a body that is
  junk or was sealed earlier by either end (ideal AEAD: the adversary cannot make a new sealed
  body; it can drop, reorder, duplicate, reflect, truncate, re-head and corrupt).
-/
import MM.Lemmas.C01
import MM.Gen.C01

namespace MM.C01

/-! ### tie to the source (regenerated facts, MM/Gen/C01.lean) -/

/-- The model's 28-byte overhead is the package's `EncryptionOverhead = NonceSize + TagSize`. -/
theorem C01_tie_constants :
    Gen.C01.encryptionOverhead = overhead ∧ Gen.C01.nonceSize = 12 ∧ Gen.C01.tagSize = 16 := by decide

/-- In `Decrypt`, every read of `recvNonce`, the `aead.Open` call (whose error returns at once) and
    the single `recvNonce` update lie in ONE Lock..Unlock region, in that order: the update comes after
    the authenticated open, and the window test cannot be separated from the update by another
    goroutine — so `decrypt` (one atomic step per call) is the right granularity.  `Decrypt` is the
    only function that writes `recvNonce`. -/
theorem C01_tie_decrypt_region :
    (∀ k ∈ Gen.C01.recvReadStmts, Gen.C01.lockStmt < k ∧ k < Gen.C01.openStmt) ∧
    Gen.C01.recvReadStmts ≠ [] ∧
    Gen.C01.openErrChecked = true ∧
    (∀ k ∈ Gen.C01.recvWriteStmts, Gen.C01.openStmt + 1 < k ∧ k < Gen.C01.unlockStmt) ∧
    Gen.C01.recvWriteStmts.length = 1 ∧
    Gen.C01.earlyUnlocksReturn = true ∧
    Gen.C01.recvNonceWriters = ["Decrypt"] := by decide

/-- (c) A rejected delivery leaves the endpoint exactly as it was — for EVERY session state and
    EVERY packet (no admissibility assumption at all). -/
theorem C01_reject_no_change (s s' : Sess) (p : Packet) (r : Res)
    (h : decrypt s p = (s', r)) (hr : r.isAcc = false) : s' = s := by
  rcases decrypt_cases h with ⟨_, hs⟩ | ⟨_, rfl, _⟩
  · exact hs
  · cases hr

/-- (c) at trace level: a rejected delivery changes nothing in the whole system state. -/
theorem C01_reject_no_change_step (st : St) (p : Packet) :
    ((step st (.delI p)).2.map Res.isAcc = some false → (step st (.delI p)).1 = st) ∧
    ((step st (.delR p)).2.map Res.isAcc = some false → (step st (.delR p)).1 = st) := by
  -- for every op: only a delivery answers, and `decrypt` hands back the session on a rejection
  -- (cases 6 and 8 of `step`: `delI`, `delR` not accepted)
  have key : ∀ op, (step st op).2.map Res.isAcc = some false → (step st op).1 = st := by
    intro op
    fun_cases step st op
    case case6 hd | case8 hd =>
      exact fun h => by rw [C01_reject_no_change _ _ _ _ hd (Option.some.inj h)]
    all_goals nofun
  exact ⟨key _, key _⟩

/-- (a)+(b), step form: what the initiator accepts was sealed by the responder EARLIER (it is in
    the pre-state's log), under a counter above every counter the initiator accepted before. -/
theorem C01_accept_at_initiator (tr : List Op) (st : St) (p : Packet) (s' : Sess) (c m : Nat)
    (hreach : exec init tr = some st) (hadm : admissible st (.delI p) = true)
    (hacc : decrypt st.i p = (s', .acc c m)) :
    (c, m) ∈ st.sentR ∧ ∀ x ∈ st.accI, x.1 < c :=
  (inv_exec inv_init tr hreach).i.fresh hadm hacc

theorem C01_accept_at_responder (tr : List Op) (st : St) (p : Packet) (s' : Sess) (c m : Nat)
    (hreach : exec init tr = some st) (hadm : admissible st (.delR p) = true)
    (hacc : decrypt st.r p = (s', .acc c m)) :
    (c, m) ∈ st.sentI ∧ ∀ x ∈ st.accR, x.1 < c :=
  (inv_exec inv_init tr hreach).r.fresh hadm hacc

/-- Strictly decreasing, newest first (= strictly increasing in time). -/
def StrictlyOrdered (l : List (Nat × Nat)) : Prop := l.Pairwise (fun newer older => older.1 < newer.1)

/-- The property over whole traces. -/
def C01_statement : Prop :=
  ∀ (tr : List Op) (st : St), exec init tr = some st →
    -- (a) everything accepted at an end was sealed by the OTHER end
    (∀ x ∈ st.accI, x ∈ st.sentR) ∧ (∀ x ∈ st.accR, x ∈ st.sentI) ∧
    -- (b) accepted counters strictly increase at each end; so do the sender's counters, hence
    --     each sealed message is accepted at most once and acceptance follows send order
    StrictlyOrdered st.accI ∧ StrictlyOrdered st.accR ∧
    StrictlyOrdered st.sentI ∧ StrictlyOrdered st.sentR ∧
    st.accI.Nodup ∧ st.accR.Nodup ∧
    st.accI.Sublist st.sentR ∧ st.accR.Sublist st.sentI

theorem C01_holds : C01_statement := by
  intro tr st h
  obtain ⟨i, r⟩ := inv_exec inv_init tr h
  exact ⟨i.auth, r.auth, i.accBelow.pairwise, r.accBelow.pairwise, i.sentBelow.pairwise,
    r.sentBelow.pairwise, i.accBelow.nodup, r.accBelow.nodup,
    i.accBelow.sublist r.sentBelow i.auth, r.accBelow.sublist i.sentBelow r.auth⟩

/-- Not vacuous on the accepting side: what one end seals, the other end accepts as long as its
    receive counter has not passed it (in-order delivery, or delivery after losses). -/
theorem C01_honest_accept (snd rcv : Sess) (m plen : Nat) (p : Packet) (snd' : Sess)
    (hdir : rcv.isInit = !snd.isInit) (hs : snd.send < W)
    (henc : encrypt snd m plen = (snd', some p)) (hwin : rcv.recv ≤ p.ctr) :
    decrypt rcv p = ({ rcv with recv := p.ctr + 1 }, .acc p.ctr m) := by
  obtain ⟨hlt, _, rfl⟩ := encrypt_some hs henc
  have hpfx : sendPfx snd.isInit = recvPfx rcv.isInit := by rw [hdir]; cases snd.isInit <;> rfl
  unfold decrypt
  rw [if_neg (Nat.not_lt.mpr (Nat.le_add_right _ _)), if_neg (not_not_intro hpfx),
    if_neg (Nat.not_lt.mpr hwin), if_neg ((succ_lt_W_iff hs).mp hlt), aeadOpen_sealed,
    Nat.mod_eq_of_lt hlt]

/-! ### what the pinned tree did (`decryptV0`, before the fix) — the three defects, machine-checked -/

/-- Reflection: an initiator that has sent one message accepted its own ciphertext. -/
theorem C01_pinned_reflection :
    decryptV0 ⟨true, 1, 0⟩ ⟨sendPfx true, 0, .sealed (sendPfx true) 0 7, 32⟩ = (⟨true, 1, 1⟩, .acc 0 7) := by
  decide

/-- A forged header moved `recvNonce` before authentication: the rejected frame locked out the
    genuine stream (every counter below 2^63 is now "too old"). -/
theorem C01_pinned_state_change_on_reject :
    decryptV0 ⟨false, 0, 0⟩ ⟨0, 9223372036854775808, .junk, 32⟩ = (⟨false, 0, 9223372036854775809⟩, .rejAuth) := by
  decide

/-- Counter 2^64-1 wrapped the receive counter back to zero (old frames replayable again). -/
theorem C01_pinned_wrap :
    decryptV0 ⟨false, 0, 5⟩ ⟨0, maxCtr, .junk, 32⟩ = (⟨false, 0, 0⟩, .rejAuth) := by
  decide

/-- The fixed code on the same three inputs. -/
theorem C01_fixed_on_witnesses :
    decrypt ⟨true, 1, 0⟩ ⟨sendPfx true, 0, .sealed (sendPfx true) 0 7, 32⟩ = (⟨true, 1, 0⟩, .rejDir) ∧
    decrypt ⟨false, 0, 0⟩ ⟨0, 9223372036854775808, .junk, 32⟩ = (⟨false, 0, 0⟩, .rejAuth) ∧
    decrypt ⟨false, 0, 5⟩ ⟨0, maxCtr, .junk, 32⟩ = (⟨false, 0, 5⟩, .rejExhausted) := by
  decide

/-! ### non-vacuity: an honest 10-op trace with loss, reordering, duplication and reflection -/

def pktI (c m : Nat) : Packet := ⟨sendPfx true, c, .sealed (sendPfx true) c m, 32⟩
def pktR (c m : Nat) : Packet := ⟨sendPfx false, c, .sealed (sendPfx false) c m, 32⟩

def demo : List Op :=
  [.encI 10 4, .encI 11 4, .encR 20 4, .encI 12 4,
   .delR (pktI 1 11),          -- message 10 was lost; 11 arrives: accepted
   .delR (pktI 0 10),          -- 10 arrives late: rejected (too old)
   .delR (pktI 1 11),          -- duplicate: rejected
   .delI (pktI 2 12),          -- reflected to its sender: rejected
   .delI (pktR 0 20),          -- accepted at the initiator
   .delR (pktI 2 12)]          -- accepted

example : (exec init demo).map (fun st => (st.accI, st.accR, st.i, st.r)) =
    some ([(0, 20)], [(2, 12), (1, 11)], ⟨true, 3, 1⟩, ⟨false, 1, 3⟩) := by decide

end MM.C01

/-
  C35 — Redacted configuration output never reveals a secret.

  "For any configuration, the redacted rendering contains none of the configured secret values.
   These are TLS private keys, proxy passwords, SOCKS5 passwords and password hashes, the agent
   private key, shell and file-transfer password hashes, and the management and signing private
   keys.  Producing the redacted rendering never changes the original configuration."

  Formalised as non-interference: the rendering is a function of the non-secret leaves and of the
  emptiness pattern of the secret leaves only — for ALL configurations (all byte strings in every
  leaf and every list entry), for ANY behaviour of the YAML round trip (faithful, lossy, failing)
  and ANY marshaller.  Model: MM/Model/C35.lean; schema and redacted paths regenerated from the
  compiled package (MM/Gen/C35.lean); tied to the code by T-diff on Config.String().
  "never changes the original": C35_original_unchanged over a memory model with aliasing (the
  functional model above has no mutation to state it about), plus `orig=same` on every
  differential case.
-/
import MM.Lemmas.C35

namespace MM.C35

/-- One sweep over the regenerated schema, because evaluating `isSecretLeaf` on every leaf is the
    expensive part; `C35_covers` and `C35_allowlist_sound` are read off it. -/
theorem secret_leaf_screened : ∀ l ∈ Gen.C35.leaves, isSecretLeaf l = true →
    l.yaml ∈ redactedPaths ∧ l.looksSecret = true ∧ l.yaml ∉ notSecretAllowList := by decide +kernel

/-- Every leaf of the CURRENT schema that falls into one of the secret classes the property
    names is reached by a `redact(&…)` call. -/
theorem C35_covers : ∀ p ∈ secretPaths, p ∈ redactedPaths := by
  intro p hp
  obtain ⟨l, hl, rfl, hs⟩ := mem_secretPaths.mp hp
  exact (secret_leaf_screened l hl hs).1

/-- Name-based screen over the WHOLE regenerated schema: every string leaf with a secret-looking
    name is redacted or on the reviewed allow-list.  A new secret-looking field added without a
    `redact(&…)` call breaks this (finite check over the regenerated tables). -/
theorem C35_name_screen :
    ∀ l ∈ Gen.C35.leaves, l.looksSecret = true → l.yaml ∈ redactedPaths ∨ l.yaml ∈ notSecretAllowList := by
  decide +kernel

/-- The allow-list does not hide anything the property names: no allow-listed path is in a secret
    class, and every secret-class leaf is caught by the name screen too. -/
theorem C35_allowlist_sound :
    (∀ p ∈ notSecretAllowList, p ∉ secretPaths) ∧
    (∀ l ∈ Gen.C35.leaves, isSecretLeaf l = true → l.looksSecret = true) := by
  refine ⟨fun p hp hsec => ?_, fun l hl hs => (secret_leaf_screened l hl hs).2.1⟩
  obtain ⟨l, hl, rfl, hs⟩ := mem_secretPaths.mp hsec
  exact (secret_leaf_screened l hl hs).2.2 hp

/-- No path is blanked in some list entries and kept in others. -/
theorem C35_uniform : Gen.C35.partialPaths = [] := rfl

theorem peers_key_pem_secret : ["peers", "[]", "tls", "key_pem"] ∈ secretPaths :=
  mem_secretPaths.mpr (by decide +kernel)

/-- The regenerated schema is not degenerate: it has leaves and the classification finds secret
    ones (otherwise `C35_covers` would be vacuous). -/
theorem C35_schema_nonvacuous : Gen.C35.leaves ≠ [] ∧ secretPaths ≠ [] :=
  ⟨by decide, List.ne_nil_of_mem peers_key_pem_secret⟩

theorem redactAll_secret (c : Cfg) {l : Loc} (hs : l.path ∈ secretPaths) :
    redactAll redactedPaths c l = redact (c l) :=
  if_pos (C35_covers _ hs)

/-- Every secret slot of the redacted copy holds nothing or the placeholder. -/
theorem C35_secret_slots (c : Cfg) (l : Loc) (hs : l.path ∈ secretPaths) :
    redactAll redactedPaths c l = [] ∨ redactAll redactedPaths c l = placeholder := by
  rw [redactAll_secret c hs]
  exact redact_cases _

/-- … and so does what `Redacted()` returns, when the deep copy either fails or is faithful. -/
theorem C35_redacted_secret_slots (rt : Cfg → Option Cfg) (hrt : ∀ r d, rt r = some d → d = r)
    (c : Cfg) (l : Loc) (hs : l.path ∈ secretPaths) :
    redacted redactedPaths rt c l = [] ∨ redacted redactedPaths rt c l = placeholder := by
  have h : redacted redactedPaths rt c = redactAll redactedPaths c := by
    unfold redacted
    dsimp only
    cases hr : rt (redactAll redactedPaths c) with
    | none => rfl
    | some d => exact hrt _ _ hr
  rw [h]; exact C35_secret_slots c l hs

/-- Fail closed: when the YAML round trip fails, the result is still the redacted copy. -/
theorem C35_fail_closed (rt : Cfg → Option Cfg) (c : Cfg) (h : rt (redactAll redactedPaths c) = none) :
    redacted redactedPaths rt c = redactAll redactedPaths c := by
  unfold redacted; simp [h]

/-- Non-interference (the property at full strength, no hypothesis on the round trip): two
    configurations that agree on every non-secret leaf and have the same secret leaves SET
    produce the same rendering — the rendering carries no information about a secret's value. -/
theorem C35_noninterference {Text : Type} (marshal : Cfg → Text) (rt : Cfg → Option Cfg) (c₁ c₂ : Cfg)
    (hpub : ∀ l, l.path ∉ secretPaths → c₁ l = c₂ l)
    (hset : ∀ l, l.path ∈ secretPaths → (c₁ l = [] ↔ c₂ l = [])) :
    render marshal redactedPaths rt c₁ = render marshal redactedPaths rt c₂ := by
  have h : redactAll redactedPaths c₁ = redactAll redactedPaths c₂ := by
    funext l
    by_cases hs : l.path ∈ secretPaths
    · rw [redactAll_secret c₁ hs, redactAll_secret c₂ hs]
      exact redact_congr (hset l hs)
    · unfold redactAll
      rw [hpub l hs]
  unfold render redacted
  rw [h]

/-- Redaction is not achieved by dropping everything: leaves outside the redacted paths are
    copied unchanged, and an unset secret stays unset. -/
theorem C35_nonsecret_preserved (c : Cfg) (l : Loc) (h : l.path ∉ redactedPaths) :
    redactAll redactedPaths c l = c l :=
  if_neg h

theorem C35_empty_stays_empty (c : Cfg) (l : Loc) (h : c l = []) : redactAll redactedPaths c l = [] := by
  unfold redactAll
  split
  · rw [h]; exact redact_nil
  · exact h

/-! ### "Producing the redacted rendering never changes the original configuration"

  Memory model with aliasing (MM/Model/C35.lean, `Store`/`CfgVal`/`redactedMem`): the copy made by
  `cp := *c` shares the backing arrays of the original's lists; Redacted() writes into elements of
  the lists named in `Gen.C35.writtenLists`.  Whether each of them is detached (cloned) before it
  is written is a regenerated behavioural fact (`Gen.C35.detached`). -/

/-- Every list whose elements Redacted() writes is detached from the original first. -/
theorem C35_lists_detached :
    Gen.C35.detached.length = Gen.C35.writtenLists.length ∧ Gen.C35.detached.all id = true := by decide

/-- With every written list cloned first, no allocated array of the original store changes —
    whatever the configuration points to, whatever the lists contain. -/
theorem C35_arrays_unchanged (red : List Path) (detach : Nat → Bool) (n : Nat)
    (hd : ∀ i, i < n → detach i = true) (m : Store) (c : CfgVal) (x : Nat) (hx : x < m.next) :
    (redactedMem red detach n m c).1.arrays x = m.arrays x := by
  unfold redactedMem
  exact foldl_stepList_arrays_of_lt red detach _ (fun i hi => hd i (List.mem_range.mp hi)) _ x hx

/-- The model does express the aliasing bug: without the clone, a set secret in a list element of
    the ORIGINAL is overwritten. -/
theorem C35_aliasing_expressible :
    let m : Store := { arrays := fun a => if a = 0 then [fun p => if p = ["tls", "key"] then [0x41] else []] else [], next := 1 }
    let c : CfgVal := { top := fun _ => [], lists := fun _ => 0 }
    (redactedMem [["tls", "key"]] (fun _ => false) 1 m c).1.arrays 0 ≠ m.arrays 0 := by
  intro m c h
  -- array elements are functions: compare them at the one path, where equality is decidable
  exact absurd (congrArg (fun l => l.map (· ["tls", "key"])) h) (by decide)

/-- The original configuration is unchanged: its own fields are held by value (the original `c`
    is only read by `redactedMem`) and every backing array that existed before the call — in
    particular those the original's lists point to — has the same contents afterwards. -/
theorem C35_original_unchanged (m : Store) (c : CfgVal) (x : Nat) (hx : x < m.next) :
    (redactedMem redactedPaths (fun i => Gen.C35.detached.getD i false) Gen.C35.writtenLists.length m c).1.arrays x
      = m.arrays x := by
  refine C35_arrays_unchanged _ _ _ ?_ m c x hx
  intro i hi
  obtain ⟨hlen, hall⟩ := C35_lists_detached
  have hi' : i < Gen.C35.detached.length := hlen ▸ hi
  rw [List.getD_eq_getElem?_getD, List.getElem?_eq_getElem hi', Option.getD_some]
  exact List.all_eq_true.mp hall _ (List.getElem_mem hi')

/-! Non-vacuity: two configurations that differ in a secret value (inside a list entry) satisfy
    the hypotheses of `C35_noninterference`. -/
example : ["peers", "[]", "tls", "key_pem"] ∈ secretPaths := peers_key_pem_secret
example : ["socks5", "auth", "users", "[]", "password_hash"] ∈ secretPaths := mem_secretPaths.mpr (by decide +kernel)
example : ["management", "public_key"] ∉ secretPaths := C35_allowlist_sound.1 _ (by decide)

example :
    let k : Loc := ⟨["peers", "[]", "tls", "key_pem"], [3]⟩
    let c₁ : Cfg := fun l => if l = k then [0x09, 0x0a, 0x20, 0x53] else []
    let c₂ : Cfg := fun l => if l = k then [0x41] else []
    (∀ l, l.path ∉ secretPaths → c₁ l = c₂ l) ∧ (∀ l, l.path ∈ secretPaths → (c₁ l = [] ↔ c₂ l = [])) := by
  intro k c₁ c₂
  have hk : k.path ∈ secretPaths := peers_key_pem_secret
  constructor
  · intro l hl
    have : l ≠ k := fun h => hl (h ▸ hk)
    simp [c₁, c₂, this]
  · intro l _
    by_cases h : l = k <;> simp [c₁, c₂, h]

end MM.C35

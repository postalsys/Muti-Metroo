/-
  C08 — CIDR route lookup is longest-prefix match with lowest-metric tie-break.

  "For any destination address, the route lookup returns a route whose network contains
   the address and has the longest prefix among all stored routes that contain it.  Among
   those it has the lowest metric.  It returns nothing exactly when no stored route contains
   the address."   Quantified over every history of additions, updates, removals, peer
   disconnects and stale-route cleanups, and every address.

  Model: MM/Model/C08.lean (`routing.Table` after fixes/C08-canonical-network.patch: routes are
  stored and keyed by their canonical network).  `contains` / `plen` are `net.IPNet.Contains`
  and the prefix length within the network's own address family.  Helpers: MM/Lemmas/C08.lean.

  On the tree before the repair the statement is false (10.1.2.3/8 metric 9 beside 10.0.0.0/8
  metric 1; ::ffff:10.0.0.0/104 beside 10.1.0.0/16): `C08_unrepaired_refuted` below proves that
  for the model of the old keying, which is why `canon` is part of the model and of the code.
-/
import MM.Lemmas.C08

namespace MM.C08

/-- The property for one table, one address and one lookup answer. -/
def LPM (t : CTable) (ip : IPAddr) : Option (Entry IPNet) → Prop
  | some r => r ∈ routes t ∧ contains r.pay ip = true ∧
      ∀ r' ∈ routes t, contains r'.pay ip = true →
        plen r'.pay ≤ plen r.pay ∧ (plen r'.pay = plen r.pay → r.metric ≤ r'.metric)
  | none => ∀ r' ∈ routes t, contains r'.pay ip = false

/-- C08 at full strength: after any history, for any address. -/
def C08_statement : Prop :=
  ∀ (self : Nat) (ops : List (Op CKey IPNet)) (ip : IPAddr),
    LPM (run cidrCfg self ops).tab ip (lookup (run cidrCfg self ops).tab ip)

/-! ### the invariant, for every history -/

/-- Every table operation preserves the invariant (distinct keys; per key a non-empty,
    metric-sorted slice of canonical networks of that key, one per origin, no local agent in a path). -/
theorem C08_inv_step {self : Nat} {s : State CKey IPNet} (h : WF cidrCfg self s.tab)
    (op : Op CKey IPNet) : WF cidrCfg self (step cidrCfg self s op).tab := WF_step h op

theorem C08_inv_run (self : Nat) (ops : List (Op CKey IPNet)) :
    WF cidrCfg self (run cidrCfg self ops).tab := WF_run cidrCfg self ops

/-- The repair keeps the set of addresses a route covers, and its prefix length. -/
theorem C08_canon_same_network (n : IPNet) (ip : IPAddr) :
    contains (canon n) ip = contains n ip ∧ plen (canon n) = plen n :=
  ⟨contains_canon n ip, plen_canon n⟩

/-! ### the scan of `lookupUnlocked`

  The loop offers the first route of every slice that contains the address to an accumulator that
  gives way to a strictly larger `Mask.Size()` only: a fold that returns a maximum of its list. -/

def keepMax {α : Type} (f : α → Nat) (acc : Option α) (x : α) : Option α :=
  match acc with
  | none => some x
  | some b => if f x > f b then some x else acc

theorem foldl_keepMax {α : Type} (f : α → Nat) (l : List α) :
    match l.foldl (keepMax f) none with
    | none => l = []
    | some r => r ∈ l ∧ ∀ y ∈ l, f y ≤ f r := by
  -- read from the end of the list, the last step of the fold is on top
  rw [← List.foldr_reverse]
  simp only [← List.mem_reverse (as := l), ← List.reverse_eq_nil_iff (xs := l)]
  induction l.reverse with
  | nil => rfl
  | cons x xs ih =>
    rw [List.foldr_cons]
    simp only [List.mem_cons, forall_eq_or_imp]
    generalize xs.foldr (fun x acc => keepMax f acc x) none = acc at ih ⊢
    cases acc with
    | none => exact ⟨Or.inl rfl, Nat.le_refl _, by rw [ih]; nofun⟩
    | some b =>
      -- the accumulator gives way to a strictly larger `x` only
      by_cases hgt : f x > f b
      · rw [keepMax, if_pos hgt]
        exact ⟨Or.inl rfl, Nat.le_refl _, fun y hy => Nat.le_trans (ih.2 y hy) (Nat.le_of_lt hgt)⟩
      · rw [keepMax, if_neg hgt]
        exact ⟨Or.inr ih.1, Nat.le_of_not_gt hgt, ih.2⟩

def cand (ip : IPAddr) (kg : CKey × Group IPNet) : Option (Entry IPNet) :=
  kg.2.head?.filter fun r => contains r.pay ip

theorem lookup_eq (t : CTable) (ip : IPAddr) :
    lookup t ip = (t.filterMap (cand ip)).foldl (keepMax fun r => rawOnes r.pay) none := by
  rw [List.foldl_filterMap]
  refine congrArg (t.foldl · none) (funext fun acc => funext fun ⟨k, g⟩ => ?_)
  cases g with
  | nil => rfl
  | cons first rest =>
    simp only [lookupStep, cand, List.head?_cons, Option.filter_some]
    cases contains first.pay ip
    · rfl
    · cases acc <;> rfl

theorem WF.mem_cands {self : Nat} {t : CTable} (hwf : WF cidrCfg self t) {ip : IPAddr}
    {r : Entry IPNet} :
    r ∈ t.filterMap (cand ip) ↔
      (get t (eff r.pay)).head? = some r ∧ contains r.pay ip = true := by
  simp only [List.mem_filterMap, cand, Option.filter_eq_some_iff]
  constructor
  · rintro ⟨kg, hkg, hh, hc⟩
    have hk : eff r.pay = kg.1 := (hwf.2 kg hkg).key r (List.mem_of_mem_head? hh)
    rw [hk, get_of_mem hwf.1 hkg]
    exact ⟨hh, hc⟩
  · rintro ⟨hh, hc⟩
    exact ⟨_, mem_of_get_ne_nil (List.ne_nil_of_mem (List.mem_of_mem_head? hh)), hh, hc⟩

/-- **Longest-prefix match, lowest metric** for every well-formed table — in whatever order the
    Go map happens to be iterated (`WF` does not depend on the order of `t`). -/
theorem C08_lookup_correct {self : Nat} {t : CTable} (hwf : WF cidrCfg self t) (ip : IPAddr) :
    LPM t ip (lookup t ip) := by
  have hstored {e : Entry IPNet} (he : e ∈ routes t) : ∃ p, e.pay = canon p :=
    (hwf.entry_get (hwf.mem_routes.mp he)).2.1
  -- a stored route is represented in the scan by the first route of its slice: the same network
  have hrep : ∀ r' ∈ routes t, contains r'.pay ip = true →
      ∃ r₀ ∈ t.filterMap (cand ip), eff r₀.pay = eff r'.pay := by
    intro r' hr' hc'
    obtain ⟨r₀, hh₀⟩ := Option.ne_none_iff_exists'.mp fun e =>
      List.ne_nil_of_mem (hwf.mem_routes.mp hr') (List.head?_eq_none_iff.mp e)
    have hk : eff r₀.pay = eff r'.pay := (hwf.entry_get (List.mem_of_mem_head? hh₀)).1
    exact ⟨r₀, hwf.mem_cands.mpr ⟨hk ▸ hh₀, (contains_of_eff hk ip).trans hc'⟩, hk⟩
  have hbest := foldl_keepMax (fun r => rawOnes r.pay) (t.filterMap (cand ip))
  rw [← lookup_eq] at hbest
  generalize lookup t ip = res at hbest ⊢
  cases res with
  | none =>
    intro r' hr'
    cases hc : contains r'.pay ip with
    | false => rfl
    | true =>
      obtain ⟨r₀, hr₀, -⟩ := hrep r' hr' hc
      rw [hbest] at hr₀; cases hr₀
  | some r =>
    obtain ⟨hr, hc⟩ := hwf.mem_cands.mp hbest.1
    -- the answer is the best route of its key
    have hkb := best_correct hwf (eff r.pay)
    rw [best, hr] at hkb
    refine ⟨hkb.1, hc, fun r' hr' hc' => ?_⟩
    obtain ⟨r₀, hr₀, hk⟩ := hrep r' hr' hc'
    obtain ⟨hh₀, hc₀⟩ := hwf.mem_cands.mp hr₀
    have hm₀ := mem_routes_of_get (List.mem_of_mem_head? hh₀)
    refine ⟨?_, fun hpl => ?_⟩
    · rw [← plen_of_eff hk]
      exact plen_le_of_rawOnes_le (hstored hm₀) (hstored hkb.1) hc₀ hc (hbest.2 r₀ hr₀)
    · -- equal prefix length and a common address: the same network
      exact hkb.2.2 r' hr' (canon_key_inj (hstored hr') (hstored hkb.1) hc' hc hpl)

/-- The invariant does not depend on the order in which the Go map is enumerated. -/
theorem WF_perm {self : Nat} {t t' : CTable} (hp : t'.Perm t) (hwf : WF cidrCfg self t) :
    WF cidrCfg self t' :=
  ⟨(hp.map Prod.fst).nodup_iff.mpr hwf.1, fun kg hkg => hwf.2 kg (hp.mem_iff.mp hkg)⟩

/-- **Every iteration order**: whatever order `range t.routes` yields (any permutation `t'` of
    the map's entries), the answer computed in that order satisfies the property for the table. -/
theorem C08_any_map_order {self : Nat} {t t' : CTable} (hp : t'.Perm t)
    (hwf : WF cidrCfg self t) (ip : IPAddr) : LPM t ip (lookup t' ip) := by
  have h := C08_lookup_correct (WF_perm hp hwf) ip
  have hr : (routes t').Perm (routes t) := hp.flatMap_right _
  generalize lookup t' ip = res at h ⊢
  cases res with
  | none => exact fun r' hr' => h r' (hr.mem_iff.mpr hr')
  | some r => exact ⟨hr.mem_iff.mp h.1, h.2.1, fun r' hr' => h.2.2 r' (hr.mem_iff.mpr hr')⟩

/-- **C08 holds** for the repaired code: every history, every address. -/
theorem C08_holds : C08_statement := fun self ops ip =>
  C08_lookup_correct (C08_inv_run self ops) ip

/-- Completeness read on its own: nothing is returned exactly when no stored route contains the
    address. -/
theorem C08_lookup_none_iff {self : Nat} {t : CTable} (hwf : WF cidrCfg self t) (ip : IPAddr) :
    lookup t ip = none ↔ ∀ r ∈ routes t, contains r.pay ip = false := by
  have h := C08_lookup_correct hwf ip
  generalize lookup t ip = res at h ⊢
  cases res with
  | none => exact ⟨fun _ => h, fun _ => rfl⟩
  | some r => exact ⟨nofun, fun hall => nomatch h.2.1.symm.trans (hall r h.1)⟩

/-! ### non-vacuity, and the statement without canonical keys -/

/-- 10.1.2.3/8 -/ private def netA : IPNet := ⟨4, 0x0a010203, 8, 32⟩
/-- 10.0.0.0/8 -/ private def netB : IPNet := ⟨4, 0x0a000000, 8, 32⟩
/-- ::ffff:10.0.0.0/104 -/ private def netM : IPNet := ⟨16, 0xffff0a000000, 104, 128⟩
/-- 10.1.0.0/16 -/ private def netC : IPNet := ⟨4, 0x0a010000, 16, 32⟩
private def ent (p : IPNet) (o m : Nat) : Entry IPNet := ⟨p, o, o, m, 1, [o], 0⟩

/-- A concrete history (non-canonical and IPv4-mapped spellings included) whose lookups return the
    metric-1 /8 for 10.9.9.9 and the /16 for 10.1.9.9. -/
example :
    let t := (run cidrCfg 1 [.add (ent netA 2 9), .add (ent netB 3 1), .add (ent netM 4 5),
                              .add (ent netC 5 7)]).tab
    (lookup t ⟨4, 0x0a090909⟩).map (·.metric) = some 1 ∧
    (lookup t ⟨4, 0x0a010909⟩).map (·.metric) = some 7 ∧
    lookup t ⟨4, 0x0b000000⟩ = none := by decide

/-- the table of the example above: four routes under two keys -/
private def t0 : CTable :=
  (run cidrCfg 1 [.add (ent netA 2 9), .add (ent netB 3 1), .add (ent netM 4 5), .add (ent netC 5 7)]).tab

/-- The hypotheses of `C08_lookup_correct` / `C08_lookup_none_iff` / `C08_inv_step` (`WF`) and of
    `WF_perm` / `C08_any_map_order` (a permutation of a well-formed table) are met by a table that
    is not trivial: 4 routes, 2 keys, one slice of 3 entries. -/
example : WF cidrCfg 1 t0 ∧ (routes t0).length = 4 ∧ t0.length = 2 ∧
    t0.reverse.Perm t0 ∧ t0.reverse ≠ t0 :=
  ⟨C08_inv_run 1 _, by decide, by decide, List.reverse_perm _, by decide⟩

/-- … and the other iteration order gives the same answers on it. -/
example : (lookup t0.reverse ⟨4, 0x0a090909⟩).map (·.metric) = some 1 ∧
    (lookup t0.reverse ⟨4, 0x0a010909⟩).map (·.metric) = some 7 := by decide

/-- The table as it was keyed before the repair: by the network as given. -/
def rawCfg : Cfg CKey IPNet := { cidrCfg with store := id }

/-- Without canonical keys the statement is false: 10.1.2.3/8 (metric 9) stored before
    10.0.0.0/8 (metric 1) answers metric 9 for 10.9.9.9. -/
theorem C08_unrepaired_refuted :
    ¬ ∀ (self : Nat) (ops : List (Op CKey IPNet)) (ip : IPAddr),
        LPM (run rawCfg self ops).tab ip (lookup (run rawCfg self ops).tab ip) := by
  intro h
  have := h 1 [.add (ent netA 2 9), .add (ent netB 3 1)] ⟨4, 0x0a090909⟩
  have hl : lookup (run rawCfg 1 [.add (ent netA 2 9), .add (ent netB 3 1)]).tab ⟨4, 0x0a090909⟩
      = some (ent netA 2 9) := by decide
  rw [hl] at this
  have h2 := this.2.2 (ent netB 3 1) (by decide) (by decide)
  have := h2.2 (by decide)
  revert this; decide

end MM.C08

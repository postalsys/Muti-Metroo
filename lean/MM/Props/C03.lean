/-
  C03 — Tunnel ends derive the same key; distinct tunnels get distinct keys.

  "For every tunnel kind (TCP stream, port forward, UDP association, ICMP session, remote shell, file
   transfer), the ingress and the exit end up with the same session key.  Tunnels that differ in
   request identifier or in either ephemeral key end up with different keys.  An all-zero or
   low-order remote key is refused instead of producing a usable key."

  Model: MM/Model/C03.lean.  Tie: MM/Gen/C03.lean is regenerated on every run by a go/ast pass over
  all DeriveSessionKey call sites (argument roles resolved against the ComputeECDH call of the same
  function); the engine `c03` compares the real DeriveSessionKey / ComputeECDH with executable
  HKDF-SHA256 / X25519 references byte for byte (MM/Model/C03Crypto.lean), runs both roles on real
  X25519 key pairs, and feeds the all-zero key and every small-order point.
-/
import MM.Model.C03
import MM.Gen.C03

namespace MM.C03

/-! ### agreement -/

/-- Every call site in the tree is canonical (regenerated table; a swapped argument, a non-literal
    role flag or an unchecked ECDH error at any site makes this fail). -/
theorem C03_sites_canonical : ∀ s ∈ Gen.C03.sites, s.canonical = true := by decide

/-- Where a private key is parked in a struct between open and ack (UDP, ICMP), the public key stored
    next to it comes from the same `GenerateEphemeralKeypair()` call (so "local" above really is the
    matching public key). -/
theorem C03_struct_pairs : Gen.C03.structPairsOK = true := by decide

/-- Every tunnel kind of the statement has at least one initiator site and one responder site, and
    no site is of an unlisted kind. -/
theorem C03_kinds_covered :
    (∀ k ∈ kinds, (Gen.C03.sites.any fun s => s.kind == k && s.isInit == some true) = true ∧
                  (Gen.C03.sites.any fun s => s.kind == k && s.isInit == some false) = true) ∧
    (∀ s ∈ Gen.C03.sites, kinds.contains s.kind = true) := by decide +kernel

/-- C03 (agreement): for EVERY initiator site and EVERY responder site in the source (in particular
    those of one tunnel kind), all ephemeral key pairs and all request identifiers: both ends
    compute the same key (or both refuse).  `comm` (X25519 commutativity) is a field of `D`. -/
theorem C03_agree {Priv Pub Secret Key : Type} (D : DH Priv Pub Secret) (enc : Pub → Bytes)
    (kdf : Secret → Bytes → Key) (si sr : Site) (hsi : si ∈ Gen.C03.sites) (hsr : sr ∈ Gen.C03.sites)
    (hI : si.isInit = some true) (hR : sr.isInit = some false)
    (a b : Priv) (req : Nat) (o1 o2 : Pub) :
    siteKey D enc kdf si a (D.pub b) req o1 = siteKey D enc kdf sr b (D.pub a) req o2 := by
  -- two canonical sites with opposite roles put the same two keys into the salt in the same order
  have hi := C03_sites_canonical si hsi
  have hr := C03_sites_canonical sr hsr
  unfold Site.canonical at hi hr
  rw [hI] at hi
  rw [hR] at hr
  simp only [Bool.and_eq_true, beq_iff_eq] at hi hr
  unfold siteKey
  rw [hi.2.1, hi.2.2, hr.2.1, hr.2.2, D.comm a b]
  rfl

/-! ### distinct tunnels feed distinct KDF inputs -/

theorem C03_salt_injective (req req' : Nat) (i i' r r' : Bytes)
    (hreq : req < 2^64) (hreq' : req' < 2^64) (hi : i.length = 32) (hi' : i'.length = 32)
    (h : salt req i r = salt req' i' r') : req = req' ∧ i = i' ∧ r = r' := by
  unfold salt at h
  rw [List.append_assoc, List.append_assoc] at h
  have h1 := List.append_inj h (by rw [beN_length, beN_length])
  have h2 := List.append_inj h1.2 (by rw [hi, hi'])
  refine ⟨?_, h2.1, h2.2⟩
  have := congrArg unbe h1.1
  rwa [unbe_beN_of_lt (k := 8) hreq, unbe_beN_of_lt (k := 8) hreq'] at this

/-- For an injective KDF (collision resistance of HKDF-SHA256 — explicit hypothesis `kdfInj`,
    not proved), tunnels that differ in the request id or in either ephemeral key get different keys
    even from the same shared secret. -/
theorem C03_distinct_keys {Secret Key : Type} (kdf : Secret → Bytes → Key)
    (kdfInj : ∀ s s' x x', kdf s x = kdf s' x' → s = s' ∧ x = x')
    (sec sec' : Secret) (req req' : Nat) (i i' r r' : Bytes)
    (hreq : req < 2^64) (hreq' : req' < 2^64) (hi : i.length = 32) (hi' : i'.length = 32)
    (hne : req ≠ req' ∨ i ≠ i' ∨ r ≠ r') :
    kdf sec (salt req i r) ≠ kdf sec' (salt req' i' r') := by
  intro h
  obtain ⟨h1, h2, h3⟩ := C03_salt_injective req req' i i' r r' hreq hreq' hi hi' (kdfInj _ _ _ _ h).2
  exact hne.elim (· h1) (·.elim (· h2) (· h3))

/-! ### degenerate remote keys are refused -/

/-- `ComputeECDH` never returns a secret for the all-zero remote key, and never returns the all-zero
    secret (the X25519 output for every low-order remote point — validated against the real
    primitive by the engine's `dh` ops on all small-order points). -/
theorem C03_zero_refused (mult : Bytes → Bytes → Bytes) (priv remote s : Bytes)
    (h : computeECDH mult priv remote = some s) :
    remote ≠ zero32 ∧ s ≠ zero32 ∧ s = mult priv remote := by
  revert h
  fun_cases computeECDH mult priv remote
  case case3 hz _ hs => exact fun h => Option.some.inj h ▸ ⟨hz, hs, rfl⟩
  all_goals nofun

/-- A low-order remote point (one on which the scalar multiplication yields zero) is refused. -/
theorem C03_low_order_refused (mult : Bytes → Bytes → Bytes) (priv remote : Bytes)
    (hlow : mult priv remote = zero32) : computeECDH mult priv remote = none := by
  cases h : computeECDH mult priv remote with
  | none => rfl
  | some s =>
    obtain ⟨_, hs, rfl⟩ := C03_zero_refused mult priv remote s h
    exact absurd hlow hs

/-- Every site derives only from a secret that a checked `ComputeECDH` returned. -/
theorem C03_sites_guarded : ∀ s ∈ Gen.C03.sites, s.secretFromECDH = true ∧ s.errChecked = true := by
  intro s hs
  have h := C03_sites_canonical s hs
  rw [Site.canonical, Bool.and_eq_true, Bool.and_eq_true] at h
  exact h.1

/-! ### non-vacuity -/

/-- A toy commutative DH (multiplication of naturals) instantiates the structure, so the
    hypotheses of `C03_agree` are satisfiable. -/
def toyDH : DH Nat Nat Nat := { pub := fun a => a, dh := fun a b => some (a * b), comm := fun a b => by simp [Nat.mul_comm] }

example : Gen.C03.sites.length ≥ 12 := by decide

example : salt 5 (List.replicate 32 1) (List.replicate 32 2) ≠ salt 5 (List.replicate 32 2) (List.replicate 32 1) := by
  decide

end MM.C03

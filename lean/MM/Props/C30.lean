/-
  C30 — Sleep mode follows its state machine for every interleaving.

  "The sleep state moves only along awake to sleeping, sleeping to polling, polling to sleeping, and
   sleeping or polling to awake.  Sleeping while asleep and waking while awake are refused.  Once a
   wake has completed, no poll activity started earlier reconnects, disconnects or puts the agent
   back to sleep, and the persisted state matches the state after every completed transition."

  Model: MM/Model/C30.lean — LTS of sleep.Manager whose atomic steps are the stateMu critical
  sections, any number of concurrent Poll() invocations, every interleaving.

  Proved for every reachable state / every step:
    C30_edges, C30_refusals, C30_persist_quiescent, C30_poll_never_sleeps_awake_agent.
  "No poll activity started before a completed wake reconnects or disconnects" (`C30_statement`) is
  REFUTED on the code (`C30_refuted`, two schedules): Poll releases the lock before invoking OnPoll,
  so a Wake completing in that gap is followed by a poll reconnect; and the second critical section
  re-checks only for AWAKE, so after wake → sleep a poll from the previous sleep episode runs
  OnPollEnd, rewrites SLEEPING and re-arms the timer inside the new episode.  Open findings.
  `C30_partial`: no stale activity in any step taken while no Wake has completed during an in-flight
  poll.
-/
import MM.Lemmas.C30
import MM.Gen.LockC30

namespace MM.C30

/-! ### Tie of the step granularity to the source (facts regenerated by tools/lockshape.go)

    The LTS treats `Sleep()` and `Wake()` as ONE atomic step each and `Poll()` as two (with the OnPoll
    callback between them), and lets the persisted state change together with the in-memory state.
    That is true of the code iff: Sleep and Wake take `stateMu` once, Poll twice; every read and
    every write of `state` in these methods happens with `stateMu` held (so check and write of one
    section cannot be separated); every `persistState` call in them happens with it held. -/

theorem C30_tie_sections :
    Gen.LockC30.acquisitions.lookup "Manager.Sleep" = some 1 ∧
    Gen.LockC30.acquisitions.lookup "Manager.Wake" = some 1 ∧
    Gen.LockC30.acquisitions.lookup "Manager.Poll" = some 2 := by decide +kernel

theorem C30_tie_state_under_lock :
    (Gen.LockC30.accesses.all fun a => a.2.1 != "state" || a.2.2.2 == "W") = true ∧
    (["Manager.Sleep", "Manager.Wake", "Manager.Poll"].all fun m =>
      Gen.LockC30.accesses.contains (m, "state", false, "W") && Gen.LockC30.accesses.contains (m, "state", true, "W")) = true := by
  decide +kernel

theorem C30_tie_persist_under_lock :
    (Gen.LockC30.calls.all fun c => c.2.1 != "persistState" || c.2.2 == "W") = true ∧
    (["Manager.Sleep", "Manager.Wake", "Manager.Poll"].all fun m =>
      Gen.LockC30.calls.contains (m, "persistState", "W")) = true := by
  decide +kernel

/-- **Edges.**  Every step of the running manager either leaves the state alone or moves it along
    one of awake→sleeping (only `Sleep`), sleeping→polling, polling→sleeping, sleeping/polling→awake
    (only `Wake`).  (A process restart is not a transition of the state machine; what it does to the
    state is `C30_restart_resumes`.) -/
theorem C30_edges (s : S) (l : Label) :
    (step s l).1.st = s.st ∨
    (s.st = .awake ∧ (step s l).1.st = .sleeping ∧ l = .sleep) ∨
    (s.st = .sleeping ∧ (step s l).1.st = .polling) ∨
    (s.st = .polling ∧ (step s l).1.st = .sleeping) ∨
    (s.st ≠ .awake ∧ (step s l).1.st = .awake ∧ l = .wake) ∨
    (∃ g, l = .restart g) := by
  rcases step_cases s l with ⟨res, e⟩ | hf
  · rw [e]; exact Or.inl rfl
  · generalize step s l = out at hf ⊢
    cases hf with
    | sleep ha => exact Or.inr (Or.inl ⟨ha, rfl, rfl⟩)
    | wake ha => exact Or.inr (Or.inr (Or.inr (Or.inr (Or.inl ⟨ha, rfl, rfl⟩))))
    | pollBegin _ _ hs => exact Or.inr (Or.inr (Or.inl ⟨hs, rfl⟩))
    | pollInvoke | pollReturn | pollEndAwake => exact Or.inl rfl
    | pollEnd _ _ ha =>
      cases hst : s.st with
      | awake => exact absurd hst ha
      | sleeping => exact Or.inl rfl
      | polling => exact Or.inr (Or.inr (Or.inr (Or.inl ⟨rfl, rfl⟩)))
    | restart g => exact Or.inr (Or.inr (Or.inr (Or.inr (Or.inr ⟨g, rfl⟩))))

/-- **Refusals.**  `Sleep()` while sleeping or polling and `Wake()` while awake are refused: the
    error is returned, nothing changes, no callback runs. -/
theorem C30_refusals (s : S) :
    (s.st ≠ .awake → step s .sleep = (s, .errAlreadySleeping, [])) ∧
    (s.st = .awake → step s .wake = (s, .errNotSleeping, [])) :=
  ⟨fun h => if_neg h, fun h => if_pos h⟩

/-- **Persisted state.**  In every reachable state in which no Poll() is in flight (Sleep and Wake
    are single atomic steps), the persisted state equals the in-memory state — or nothing has
    been written yet and the agent is still awake. -/
theorem C30_persist_quiescent (n : Nat) (s : S) (hr : Reachable n s) (hq : allIdle s = true) :
    s.file = some s.st ∨ (s.file = none ∧ s.st = .awake) :=
  inv_quiescent (inv_reachable hr) hq

/-- **A poll never puts an awake agent to sleep.**  From AWAKE the only step that leaves AWAKE is
    `Sleep()`: whatever a poll that began earlier still does, it does not undo a completed wake. -/
theorem C30_poll_never_sleeps_awake_agent (s : S) (l : Label) (ha : s.st = .awake) (hl : l ≠ .sleep)
    (hr : ∀ g, l ≠ .restart g) :
    (step s l).1.st = .awake := by
  rcases C30_edges s l with h | h | h | h | h | h
  · rw [h, ha]
  · exact absurd h.2.2 hl
  · rw [ha] at h; cases h.1
  · rw [ha] at h; cases h.1
  · exact h.2.1
  · obtain ⟨g, hg⟩ := h; exact absurd hg (hr g)

/-- **Restart.**  In every reachable state, restarting the process at a quiescent point (new manager on
    the same data directory, `LoadState`, with or without a graceful `Stop()` first; while a Poll() is in
    flight the label is disabled and nothing changes) resumes exactly the state the manager was in: a
    completed transition is never lost or undone by a restart, and the persisted state still equals the
    in-memory state afterwards. -/
theorem C30_restart_resumes (n : Nat) (s : S) (hr : Reachable n s) (g : Bool) :
    (step s (.restart g)).1.st = s.st ∧
    (allIdle s = true → ((step s (.restart g)).1.file = some s.st ∨ ((step s (.restart g)).1.file = none ∧ s.st = .awake))) := by
  rcases step_cases s (.restart g) with ⟨res, e⟩ | hf
  · rw [e]; exact ⟨rfl, C30_persist_quiescent n s hr⟩
  · generalize step s (.restart g) = out at hf ⊢
    cases hf with
    | restart _ hq =>
      have hl := restart_loaded (inv_reachable hr) hq g
      exact ⟨hl, fun _ => loaded_eq hl⟩

/-- The full "no stale poll activity" clause: along every schedule, no OnPoll / OnPollEnd is run
    by a poll that began before a Wake() that has since completed. -/
def C30_statement : Prop :=
  ∀ (n : Nat) (sched : List Label), ∀ e ∈ (run (S.init n) sched).2, isStale e = false

/-- Wake completes between Poll's first unlock and the OnPoll call: the poll reconnects anyway. -/
theorem C30_witness_reconnect :
    (run (S.init 1) [.sleep, .pollBegin 0, .wake, .pollInvoke 0]).2 = [.onSleep, .onWake, .onPoll 0 true] := by
  decide

/-- wake → sleep while a poll is inside OnPoll: its second section sees SLEEPING (of the NEW
    episode), runs OnPollEnd, writes SLEEPING and re-arms the timer. -/
theorem C30_witness_pollend :
    (run (S.init 1) [.sleep, .pollBegin 0, .pollInvoke 0, .wake, .sleep, .pollReturn 0, .pollEnd 0]).2 =
      [.onSleep, .onPoll 0 false, .onWake, .onSleep, .onPollEnd 0 true] := by
  decide

theorem C30_refuted : ¬ C30_statement := by
  intro h
  have := h 1 [.sleep, .pollBegin 0, .wake, .pollInvoke 0] (.onPoll 0 true) (by rw [C30_witness_reconnect]; simp)
  cases this

/-- **No stale activity while no wake overtakes a poll.**  In a state where every in-flight poll
    began after the last completed Wake (`epoch = wakes`), no step runs a stale callback. -/
theorem C30_partial (s : S) (l : Label)
    (h : ∀ (i : Nat) (t : Thread), s.threads[i]? = some t → t.pc ≠ .idle → t.epoch = s.wakes) :
    ∀ e ∈ (step s l).2.2, isStale e = false := by
  have fresh : ∀ {i : Nat} {t : Thread}, s.threads[i]? = some t → t.pc ≠ .idle →
      decide (s.wakes > t.epoch) = false :=
    fun ht hpc => by rw [h _ _ ht hpc]; exact decide_eq_false (Nat.lt_irrefl _)
  rcases step_cases s l with ⟨res, e⟩ | hf
  · rw [e]; exact List.forall_mem_nil _
  · generalize step s l = out at hf ⊢
    cases hf with
    | sleep | wake => exact List.forall_mem_singleton.mpr rfl
    | pollInvoke ht hpc | pollEnd ht hpc => exact List.forall_mem_singleton.mpr (fresh ht (by rw [hpc]; nofun))
    | pollBegin | pollReturn | pollEndAwake | restart => exact List.forall_mem_nil _

/-! ### Agent.doPoll: "once a wake has completed, no poll activity started earlier … disconnects" -/

/-- doPoll never disconnects an awake agent. -/
def C30_dopoll_statement : Prop :=
  ∀ (sched : List DLabel), DEvent.disconnect true ∉ (drun DS.init sched).2

/-- REFUTED: the state check and `DisconnectAll()` are not atomic — a Wake() completing in between
    is followed by the disconnect. -/
theorem C30_dopoll_refuted : ¬ C30_dopoll_statement :=
  fun h => h [.sleep, .dpStart, .wake, .dpRelease] (by decide)

/-- `C30_dopoll_statement` holds while no Wake() completes between doPoll's check and its disconnect:
    as long as a parked doPoll implies "not awake" (`hinv`; it found the agent so) no step disconnects
    an awake agent, and every step but `wake` / a wake command keeps `hinv`. -/
theorem C30_dopoll_partial (s : DS) (l : DLabel) (hinv : s.parked = true → s.st ≠ .awake) :
    DEvent.disconnect true ∉ (dstep s l).2.2 ∧
    (l ≠ .wake → l ≠ .wakeCmd → ((dstep s l).1.parked = true → (dstep s l).1.st ≠ .awake)) := by
  -- the branches of `dstep` in the order they are written: 1–2 `sleep`, 3–4 `wake`, 5–8 `dpStart` (disabled,
  -- waits, returns, parks), 9–10 `dpRelease` (disabled, disconnects), 11 `wakeCmd`
  fun_cases dstep s l
  case case1 => exact ⟨nofun, fun _ _ _ => nofun⟩
  case case3 | case4 => exact ⟨nofun, fun h => absurd rfl h⟩
  case case8 ha => exact ⟨nofun, fun _ _ _ => ha⟩
  case case10 hp =>
    have ha : decide (s.st = .awake) = false := decide_eq_false (hinv (by simpa using hp))
    exact ⟨by simp [ha], fun _ _ => nofun⟩
  case case11 => exact ⟨nofun, fun _ h => absurd rfl h⟩
  -- refused `Sleep`, disabled or waiting or returning doPoll: no event, `parked` and `st` as before
  all_goals exact ⟨nofun, fun _ _ => hinv⟩

/-- A wake COMMAND ends a doPoll that sits in its wait, without any disconnect: the agent is
    awake afterwards, no doPoll is waiting, nothing is disconnected by this step. -/
theorem C30_dopoll_wake_command_ends_wait (s : DS) :
    (dstep s .wakeCmd).1.st = .awake ∧ (dstep s .wakeCmd).1.waiting = false ∧ (dstep s .wakeCmd).2.2 = [] ∧
    (dstep s .wakeCmd).1.parked = s.parked := by
  simp only [dstep]
  by_cases ha : s.st = .awake <;> simp [ha]

/-! Vacuity: the hypotheses are met by real runs. -/
example : Reachable 2 (run (S.init 2) [.sleep, .pollBegin 0, .pollInvoke 0, .pollReturn 0, .pollEnd 0]).1 :=
  .step (.pollEnd 0) (.step (.pollReturn 0) (.step (.pollInvoke 0) (.step (.pollBegin 0) (.step .sleep .init))))
example : allIdle (run (S.init 2) [.sleep, .pollBegin 0, .pollInvoke 0, .pollReturn 0, .pollEnd 0]).1 = true := by decide
example : (run (S.init 2) [.sleep, .pollBegin 0, .pollInvoke 0, .pollReturn 0, .pollEnd 0]).1.file = some .sleeping := by decide

end MM.C30

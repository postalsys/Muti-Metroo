/-
  C37 — Configuration variable expansion is single-pass and follows the documented forms.

  "Text without a dollar sign is unchanged by expansion.  References to set variables are
   replaced by the variable's value, and values substituted from the environment are never
   expanded again.  An unset variable with a default takes the default, and an unset variable
   without one is left as written."

  Quantified over ALL texts (byte strings) and ALL environments (`Env = Bytes → Option Bytes`).
  Model: MM/Model/C37.lean (tied to /repo/internal/config/config.go:expandEnvVars by T-diff).
-/
import MM.Lemmas.C37
import MM.Gen.C37

namespace MM.C37

/-- The pattern compiled into the binary is, character for character, the one MM/Model/C37.lean
    models (regenerated from `envVarRegex.String()`): ANY edit of the regexp — including ones with
    no difference observable through expandEnvVars, such as `[^}]+` → `[^}]*` — breaks this tie and
    asks for the model to be re-read against the new pattern. -/
theorem C37_pattern_tie :
    Gen.C37.pattern = "\\$\\{([^}]+)\\}|\\$([A-Za-z_][A-Za-z0-9_]*)" := rfl

theorem C37_no_dollar_id (env : Env) (s : Bytes) (h : ∀ b ∈ s, b ≠ cDollar) : expand env s = s := by
  simpa [expand, tokens_nil] using expand_append_lit env s [] h

example : expand (fun _ => some [0x41]) [0x61, 0x7B, 0x7D, 0x3A] = [0x61, 0x7B, 0x7D, 0x3A] :=
  C37_no_dollar_id _ _ (by decide)

/-- Single pass, part 1: the text is cut — WITHOUT looking at the environment (`tokens` has no
    `env` argument) — into pieces whose concatenation is the text; the output is the
    concatenation of the images of the pieces, each piece mapped exactly once. -/
theorem C37_single_pass (env : Env) (s : Bytes) :
    (tokens s).flatMap Tok.src = s ∧ expand env s = (tokens s).flatMap (subst env) ∧
    ∀ t ∈ tokens s, t.WellFormed :=
  ⟨(tokens_spec s).1, rfl, (tokens_spec s).2⟩

/-- Single pass, part 2: the image of a reference whose variable is set is the value itself,
    byte for byte — whatever the value contains (`$`, `${…}`, braces…), it is not scanned. -/
theorem C37_value_verbatim (env : Env) (t : Tok) (name val : Bytes)
    (ht : t = .brace name ∨ t = .bare name) (hnd : splitDefault name = none)
    (hset : env name = some val) : subst env t = val := by
  rcases ht with rfl | rfl <;> simp [subst, replacement, hnd, hset]

/-- Same for the `${VAR:-default}` form. -/
theorem C37_value_verbatim_default (env : Env) (name var dflt val : Bytes)
    (hsd : splitDefault name = some (var, dflt)) (hset : env var = some val) :
    subst env (.brace name) = val := by
  simp [subst, replacement, hsd, hset]

/-- The output is a function of the token list and the per-token substitutions only: replacing a
    value changes the output only at the images of that variable's references. -/
theorem C37_env_congr (env env' : Env) (s : Bytes)
    (h : ∀ t ∈ tokens s, subst env t = subst env' t) : expand env s = expand env' s := by
  unfold expand
  rw [List.flatMap_def, List.flatMap_def, List.map_congr_left h]

/-! ### The documented forms.  `pre` is any `$`-free text, `post` ANY text (it is expanded on
    its own: what precedes it has no influence on it). -/

/-- `${VAR}` with VAR set → the value. -/
theorem C37_set_brace (env : Env) (pre name post val : Bytes)
    (hpre : ∀ b ∈ pre, b ≠ cDollar) (hne : name ≠ []) (hnb : ∀ b ∈ name, b ≠ cRBrace)
    (hnc : ∀ b ∈ name, b ≠ cColon) (hset : env name = some val) :
    expand env (pre ++ cDollar :: cLBrace :: (name ++ cRBrace :: post)) = pre ++ val ++ expand env post := by
  rw [expand_brace hpre hne hnb,
    C37_value_verbatim env _ name val (Or.inl rfl) (splitDefault_none_of_no_colon name hnc) hset]

/-- `$VAR` with VAR set → the value. -/
theorem C37_set_bare (env : Env) (pre name post val : Bytes)
    (hpre : ∀ b ∈ pre, b ≠ cDollar) (hid : IsIdent name) (hp : NoIdCharAhead post)
    (hset : env name = some val) :
    expand env (pre ++ cDollar :: (name ++ post)) = pre ++ val ++ expand env post := by
  rw [expand_bare hpre hid hp,
    C37_value_verbatim env _ name val (Or.inr rfl)
      (splitDefault_none_of_no_colon name (ident_no_colon hid)) hset]

/-- `${VAR:-default}`: VAR unset → the default; VAR set → the value. -/
theorem C37_default (env : Env) (pre var dflt post : Bytes)
    (hpre : ∀ b ∈ pre, b ≠ cDollar) (hvc : ∀ b ∈ var, b ≠ cColon)
    (hvb : ∀ b ∈ var, b ≠ cRBrace) (hdb : ∀ b ∈ dflt, b ≠ cRBrace) :
    expand env (pre ++ cDollar :: cLBrace :: ((var ++ cColon :: cMinus :: dflt) ++ cRBrace :: post)) =
      pre ++ (match env var with | some val => val | none => dflt) ++ expand env post := by
  have hne : var ++ cColon :: cMinus :: dflt ≠ [] := by simp
  have hnb : ∀ b ∈ var ++ cColon :: cMinus :: dflt, b ≠ cRBrace := by
    simp only [List.mem_append, List.mem_cons]
    rintro b (hb | rfl | rfl | hb)
    · exact hvb b hb
    · decide
    · decide
    · exact hdb b hb
  rw [expand_brace hpre hne hnb]
  congr 2
  simp only [subst, replacement, splitDefault_intro var dflt hvc]
  cases env var <;> rfl

/-- An unset variable without a default is left as written (`${VAR}`). -/
theorem C37_unset_kept_brace (env : Env) (pre name post : Bytes)
    (hpre : ∀ b ∈ pre, b ≠ cDollar) (hne : name ≠ []) (hnb : ∀ b ∈ name, b ≠ cRBrace)
    (hnc : ∀ b ∈ name, b ≠ cColon) (hunset : env name = none) :
    expand env (pre ++ cDollar :: cLBrace :: (name ++ cRBrace :: post)) =
      pre ++ (cDollar :: cLBrace :: (name ++ [cRBrace])) ++ expand env post := by
  rw [expand_brace hpre hne hnb,
    subst_unset env _ name (Or.inl rfl) (splitDefault_none_of_no_colon name hnc) hunset]
  rfl

/-- An unset variable without a default is left as written (`$VAR`). -/
theorem C37_unset_kept_bare (env : Env) (pre name post : Bytes)
    (hpre : ∀ b ∈ pre, b ≠ cDollar) (hid : IsIdent name) (hp : NoIdCharAhead post)
    (hunset : env name = none) :
    expand env (pre ++ cDollar :: (name ++ post)) = pre ++ (cDollar :: name) ++ expand env post := by
  rw [expand_bare hpre hid hp,
    subst_unset env _ name (Or.inr rfl) (splitDefault_none_of_no_colon name (ident_no_colon hid))
      hunset]
  rfl

/-! ### The hypotheses are satisfiable on non-trivial inputs; the value is not re-expanded -/

-- "a=${V}b$W" with V = "$W", W = "${V}" : each value is emitted once, verbatim.
example :
    expand (envOfList [([0x56], [0x24, 0x57]), ([0x57], [0x24, 0x7B, 0x56, 0x7D])])
      [0x61, 0x3D, 0x24, 0x7B, 0x56, 0x7D, 0x62, 0x24, 0x57] =
      [0x61, 0x3D, 0x24, 0x57, 0x62, 0x24, 0x7B, 0x56, 0x7D] := by
  have h := C37_set_brace (envOfList [([0x56], [0x24, 0x57]), ([0x57], [0x24, 0x7B, 0x56, 0x7D])])
    [0x61, 0x3D] [0x56] [0x62, 0x24, 0x57] [0x24, 0x57] (by decide) (by decide) (by decide) (by decide) rfl
  have h2 := C37_set_bare (envOfList [([0x56], [0x24, 0x57]), ([0x57], [0x24, 0x7B, 0x56, 0x7D])])
    [0x62] [0x57] [] [0x24, 0x7B, 0x56, 0x7D] (by decide) ⟨0x57, [], rfl, by decide, by simp⟩
    (by intro c t h; cases h) rfl
  simp only [List.append_nil, List.cons_append, List.nil_append] at h h2
  rw [h, h2]
  simp [expand, tokens_nil]

example : IsIdent [0x41, 0x5F, 0x39] := ⟨0x41, [0x5F, 0x39], rfl, by decide, by decide⟩
example : NoIdCharAhead [0x2D, 0x41] := by intro c t h; injection h with h _; subst h; decide

-- "${V:-d}" with V unset gives "d" (`var` may be empty: "${:-d}" gives "d" as well).
example : expand (envOfList []) [0x24, 0x7B, 0x56, 0x3A, 0x2D, 0x64, 0x7D] = [0x64] := by
  have h := C37_default (envOfList []) [] [0x56] [0x64] [] (by simp) (by decide) (by decide) (by decide)
  simpa [expand, tokens_nil, envOfList] using h

end MM.C37

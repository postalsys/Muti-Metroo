/-
  C07 — Frames never exceed the payload limit and stream bytes are re-assembled exactly.

  "Every frame an agent writes to a peer carries at most 16,384 payload bytes.  Any application
   write of any size to a tunnel arrives at the far end as the same bytes in the same order,
   however it was split into frames."

  Model: MM/Model/C07.lean (chunk loop, ideal AEAD, WriteStreamData re-slicing, Frame.Encode
  gate, per-frame opening at the far end).  The numbers come from MM/Gen/C07.lean (measured on
  the compiled code by the harness) and MM/Gen/C07Ast.lean (evaluated from the source
  expressions); both are regenerated on every run.
-/
import MM.Lemmas.C07

namespace MM.C07

/-! ## the chunk loop -/

theorem C07_chunks_concat {α : Type} {n : Nat} (hn : 0 < n) (b : List α) :
    (chunks n b).flatten = b := by
  fun_induction chunks n b with
  | case1 b h => exact (h.resolve_left (Nat.ne_of_gt hn)).symm
  | case2 b h ih => rw [List.flatten_cons, ih, List.take_append_drop]

theorem C07_chunk_le {α : Type} (n : Nat) (b : List α) :
    ∀ c ∈ chunks n b, c.length ≤ n := fun c hc => (chunks_mem b c hc).1

example : chunks 3 [1, 2, 3, 4, 5, 6, 7] = [[1, 2, 3], [4, 5, 6], [7]] := by
  simp [chunks_cons, chunks_nil]
example : chunkLens 16384 16413 = [16384, 29] := by
  simp [chunkLens_cons, chunkLens_zero_len]

/-! ## frame bound -/

/-- Every frame any path writes to the peer carries at most `maxPayload` bytes — for ANY
    configuration and ANY sequence of pieces (no hypothesis): `Frame.Encode` is on the way of
    every frame. -/
theorem C07_frame_le (c : Cfg) (p : Path) (pieces : List Bytes) (seq : Nat) :
    ∀ f ∈ sendPieces c p seq pieces, f.len ≤ c.maxPayload := by
  fun_induction sendPieces c p seq pieces with
  | case1 => nofun
  | case2 seq x xs g hg ih => exact List.forall_mem_append.mpr ⟨gate_mem _ _, ih⟩
  | case3 seq x xs g hg => exact gate_mem _ _

/-- … and without relying on the gate: on a path that fits (`bufSize + hdr + overhead ≤
    frameCap`) the gate never fires, i.e. no write is ever refused. -/
theorem C07_no_refusal (c : Cfg) (p : Path) (x : Bytes) (seq : Nat)
    (hx : x.length ≤ p.bufSize) (hfit : p.bufSize + p.hdr + c.overhead ≤ frameCap c p) :
    gate c.maxPayload (framesOf c p ⟨seq, hdrOf p ++ x⟩) = (framesOf c p ⟨seq, hdrOf p ++ x⟩, true) := by
  have hs := sealed_fits hx hfit seq
  refine gate_all fun f hf => ?_
  rcases framesOf_fit hs with h | ⟨h, _⟩ <;> rw [h] at hf
  · cases List.mem_singleton.mp hf
    exact Nat.le_trans hs (frameCap_le c p)
  · cases hf

/-! ## re-assembly -/

/-- MAIN THEOREM.  On a path whose largest message fits one frame, whatever pieces the source
    delivers (any number, any sizes up to the buffer, including empty reads), the far end
    re-assembles exactly the bytes that were written, in order. -/
theorem C07_reassemble_pieces (c : Cfg) (p : Path) (pieces : List Bytes) (seq : Nat)
    (hfit : p.bufSize + p.hdr + c.overhead ≤ frameCap c p)
    (hp : ∀ x ∈ pieces, x.length ≤ p.bufSize) :
    receive c p (sendPieces c p seq pieces) = some pieces.flatten := by
  induction pieces generalizing seq with
  | nil => rfl
  | cons x xs ih =>
    have hx := hp x (.head _)
    have ih := ih (seq + 1) fun y hy => hp y (.tail _ hy)
    rw [sendPieces, C07_no_refusal c p x seq hx hfit, if_pos rfl]
    rcases framesOf_fit (sealed_fits hx hfit seq) with h | ⟨h, h0⟩ <;> rw [h]
    · rw [List.singleton_append, receive, openF_whole, ih]
      exact congrArg (fun l => some (l ++ xs.flatten)) (List.drop_left' (hdrOf_length p))
    · -- an empty ciphertext: the piece was empty
      rw [List.nil_append, ih, (List.append_eq_nil_iff.mp h0).2]
      rfl

/-- The statement of the property for one path: every write of every size arrives intact, and no
    frame exceeds the limit. -/
def C07_holds (c : Cfg) (p : Path) : Prop :=
  ∀ b : Bytes, receive c p (send c p b) = some b ∧ ∀ f ∈ send c p b, f.len ≤ c.maxPayload

/-- If the largest message fits one frame (`hfit`; `frameCap` is `min rechunkAt maxPayload` on the
    WriteStreamData paths, `maxPayload` on the others), `receive (send b) = some b` for every `b`. -/
theorem C07_reassemble (c : Cfg) (p : Path) (hbuf : 0 < p.bufSize)
    (hfit : p.bufSize + p.hdr + c.overhead ≤ frameCap c p) : C07_holds c p := by
  intro b
  refine ⟨?_, C07_frame_le c p _ 0⟩
  unfold send
  rw [C07_reassemble_pieces c p _ 0 hfit (C07_chunk_le _ b), C07_chunks_concat hbuf]

/-- The premise is also NECESSARY on the re-slicing paths: if the largest message does not fit
    one slice, a write that fills the buffer is not re-assembled (this is the defect the shell
    output paths had with a 16 384-byte buffer: 16384 + 1 + 28 = 16413 > 16384). -/
theorem C07_premise_necessary (c : Cfg) (p : Path) (hr : p.rechunk = true) (hbuf : 0 < p.bufSize)
    (hbig : c.rechunkAt < p.bufSize + p.hdr + c.overhead) :
    ∃ b : Bytes, b.length = p.bufSize ∧ receive c p (send c p b) ≠ some b := by
  have hlen : (List.replicate p.bufSize (0 : UInt8)).length = p.bufSize := List.length_replicate
  have hpos := Nat.lt_of_lt_of_eq hbuf hlen.symm
  refine ⟨_, hlen, ?_⟩
  rw [send, chunks_single hpos (Nat.le_of_eq hlen)]
  refine receive_big 0 hpos (Nat.lt_of_le_of_lt ?_ (by rw [hlen, Nat.add_comm p.hdr]; exact hbig))
  rw [frameCap_rechunk c hr]
  exact Nat.min_le_left _ _

/-! ## the engine's arithmetic is the model -/

/-- The (length, opens?) list the engine computes from piece lengths is exactly that of the
    frames of the byte-level model. -/
theorem C07_model_lens (c : Cfg) (p : Path) (pieces : List Bytes) (seq : Nat) :
    (sendPieces c p seq pieces).map (lf c) = sendLF c p (pieces.map List.length) := by
  fun_induction sendPieces c p seq pieces with
  | case1 => rfl
  | case2 seq x xs g hg ih =>
    rw [List.map_append, List.map_cons, sendLF, ← sealed_length c p seq x, ← framesOf_lf, gate_map,
      if_pos hg, ih]
  | case3 seq x xs g hg =>
    rw [List.map_cons, sendLF, ← sealed_length c p seq x, ← framesOf_lf, gate_map, if_neg hg]

/-- … and the piece lengths of the greedy source are `chunkLens`. -/
theorem C07_send_lens (c : Cfg) (p : Path) (b : Bytes) :
    (send c p b).map (lf c) = sendLF c p (chunkLens p.bufSize b.length) := by
  unfold send
  rw [C07_model_lens, chunks_lens]

/-! ## the tree under examination: premises decided on the regenerated numbers -/

/-- **Atomic step of the shell senders** (tie, regenerated by tools/c07_extract.go on every run).
    Several goroutines write on one shell stream (stdout pump, stderr pump, exit/ack replies); every
    sealed message takes the next nonce and the receiver rejects a frame overtaken by a later one, so
    "re-assembled exactly" needs seal-and-send of one message to be ONE critical section of
    `ss.writeMu` in `writeEncrypted`: one acquisition, the single `Encrypt` and the single
    `WriteStreamData` both under it.  (`sendPieces` models seal+send of a piece as one step.) -/
theorem C07_shell_seal_send_atomic :
    Gen.C07Ast.shellSealAndSendAtomic = true ∧ Gen.C07Ast.shellWriteLocks = 1 ∧
    Gen.C07Ast.shellSealCalls = 1 ∧ Gen.C07Ast.shellSealUnderLock = 1 ∧
    Gen.C07Ast.shellSendCalls = 1 ∧ Gen.C07Ast.shellSendUnderLock = 1 := by
  decide

/-- The two independent extractions (measured on the compiled code / evaluated from the source
    text) agree (the WriteStreamData slice size only up to the frame limit: a larger slice is
    refused by `Frame.Encode` before it can be observed; stdout and stderr share `pumpOutput`, so
    `sherrBuf` is compared with the one source number `shoutBuf`). -/
theorem C07_gen_agree :
    Gen.C07.tcpBuf = Gen.C07Ast.tcpBuf ∧
    min Gen.C07.rechunk Gen.C07.maxPayload = min Gen.C07Ast.rechunk Gen.C07.maxPayload ∧
    Gen.C07.exitBuf = Gen.C07Ast.exitBuf ∧ Gen.C07.fwdBuf = Gen.C07Ast.fwdBuf ∧
    Gen.C07.shoutBuf = Gen.C07Ast.shoutBuf ∧ Gen.C07.sherrBuf = Gen.C07Ast.shoutBuf ∧
    Gen.C07.shptyBuf = Gen.C07Ast.shptyBuf ∧ Gen.C07.fupBuf = Gen.C07Ast.fupBuf ∧
    Gen.C07.fdownBuf = Gen.C07Ast.fdownBuf ∧
    Gen.C07.shinBuf + Gen.C07.shellHdr = Gen.C07Ast.shinMsgMax ∧
    cfg.maxPayload = 16384 ∧
    Gen.C07.overhead = Gen.C07.nonceSize + Gen.C07.tagSize ∧ Gen.C07.sealGrowth = Gen.C07.overhead := by
  decide

theorem C07_tcp : C07_holds cfg tcp := C07_reassemble cfg tcp (by decide) (by decide)
theorem C07_exit : C07_holds cfg exit := C07_reassemble cfg exit (by decide) (by decide)
theorem C07_fwd : C07_holds cfg fwd := C07_reassemble cfg fwd (by decide) (by decide)
theorem C07_shout : C07_holds cfg shout := C07_reassemble cfg shout (by decide) (by decide)
theorem C07_sherr : C07_holds cfg sherr := C07_reassemble cfg sherr (by decide) (by decide)
theorem C07_shpty : C07_holds cfg shpty := C07_reassemble cfg shpty (by decide) (by decide)
theorem C07_shin : C07_holds cfg shin := C07_reassemble cfg shin (by decide) (by decide)
theorem C07_fup : C07_holds cfg fup := C07_reassemble cfg fup (by decide) (by decide)
theorem C07_fdown : C07_holds cfg fdown := C07_reassemble cfg fdown (by decide) (by decide)

/-- C07 for the tree under examination: on every data path every write of every size arrives
    intact and no frame exceeds `maxPayload`. -/
theorem C07_all : ∀ p ∈ [tcp, exit, fwd, shout, sherr, shpty, shin, fup, fdown], C07_holds cfg p := by
  simp only [List.forall_mem_cons]
  exact ⟨C07_tcp, C07_exit, C07_fwd, C07_shout, C07_sherr, C07_shpty, C07_shin, C07_fup, C07_fdown, nofun⟩

/-- A path fed by an application that writes in pieces of its own, each write being chunked
    separately (`meshConn.Write` under io.Copy's 32 KiB buffer; one STDIN WebSocket message of
    any size under `shell.SplitStdin`): the stream is still re-assembled exactly. -/
theorem C07_reassemble_writes (c : Cfg) (p : Path) (hbuf : 0 < p.bufSize)
    (hfit : p.bufSize + p.hdr + c.overhead ≤ frameCap c p) (writes : List Bytes) :
    receive c p (sendPieces c p 0 (writes.flatMap (chunks p.bufSize))) = some writes.flatten := by
  rw [C07_reassemble_pieces c p _ 0 hfit (List.forall_mem_flatMap.mpr fun w _ => C07_chunk_le _ w)]
  congr 1
  induction writes with
  | nil => rfl
  | cons w ws ih =>
    rw [List.flatMap_cons, List.flatten_append, ih, List.flatten_cons, C07_chunks_concat hbuf]

theorem C07_tcp_writes (writes : List Bytes) :
    receive cfg tcp (sendPieces cfg tcp 0 (writes.flatMap (chunks tcp.bufSize))) = some writes.flatten :=
  C07_reassemble_writes cfg tcp (by decide) (by decide) writes

theorem C07_shin_messages (msgs : List Bytes) :
    receive cfg shin (sendPieces cfg shin 0 (msgs.flatMap (chunks shin.bufSize))) = some msgs.flatten :=
  C07_reassemble_writes cfg shin (by decide) (by decide) msgs

example : ([[1, 2], [], [3]] : List Bytes).flatten = [1, 2, 3] := rfl

/-! ## hypotheses are satisfiable; the defect that was repaired -/

/-- the premise of `C07_reassemble` holds for a concrete non-trivial path … -/
example : (0 : Nat) < shout.bufSize ∧ shout.bufSize + shout.hdr + cfg.overhead ≤ frameCap cfg shout := by decide
/-- … and `C07_holds` is not vacuous: a 3-byte write on the shell path is one 32-byte frame. -/
example : (send ⟨16384, 28, 16384⟩ ⟨16355, 1, true⟩ [7, 8, 9]).map (lf ⟨16384, 28, 16384⟩) = [(32, true)] := by
  simp [C07_send_lens, chunkLens_single, sendLF, framesLF, gateLF]

/-- Shell stdin before the repair (no `SplitStdin`): a STDIN message larger than one frame was
    handed to `Frame.Encode` whole, refused, and the session closed; nothing of it arrived. -/
theorem C07_old_shell_stdin_refuted (n : Nat) (hn : 16355 < n) :
    receive ⟨16384, 28, 16384⟩ ⟨n, 1, false⟩ (sendPieces ⟨16384, 28, 16384⟩ ⟨n, 1, false⟩ 0 [List.replicate n 0])
      ≠ some (List.replicate n 0) := by
  have hlen : (List.replicate n (0 : UInt8)).length = n := List.length_replicate
  exact receive_big 0 (Nat.lt_of_lt_of_eq (Nat.zero_lt_of_lt hn) hlen.symm)
    (show 16384 < 1 + (List.replicate n (0 : UInt8)).length + 28 by rw [hlen]; omega)

/-- The shell output paths before the repair (`buf := make([]byte, 16*1024)`): a read that fills
    the buffer is sealed into a 16 413-byte ciphertext, sliced 16384 + 29, and cannot be opened. -/
theorem C07_old_shell_buffer_refuted :
    ¬ C07_holds ⟨16384, 28, 16384⟩ ⟨16384, 1, true⟩ :=
  fun h =>
    let ⟨b, _, hb⟩ := C07_premise_necessary ⟨16384, 28, 16384⟩ ⟨16384, 1, true⟩ rfl (by decide) (by decide)
    hb (h b).1

end MM.C07

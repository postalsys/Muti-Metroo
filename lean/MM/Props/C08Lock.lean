/-
  C08 / C10 — atomic-step tie for `routing.Table` (facts regenerated by tools/lockshape.go into
  MM/Gen/LockC08.lean on every run).  The proofs of Props/C08.lean and Props/C10.lean take each
  table method as one atomic step; this is what that needs of the source.
-/
import MM.Model.C08
import MM.Gen.LockC08

namespace MM.C08

/-- `AddRoute`, `RemoveRoute`, `RemoveRoutesFromPeer`, `CleanupStaleRoutes`, `Clear` each take the
    table mutex once and touch `routes` / call helpers only under the write lock (so check and
    insert cannot be separated); `Lookup`, `LookupAll`, `GetRoute`, `HasRoute` take it once and
    only read, under the read or write lock. -/
theorem C08_atomic_steps :
    stepsAtomic Gen.LockC08.acquisitions Gen.LockC08.accesses Gen.LockC08.calls
      ["Table.AddRoute", "Table.RemoveRoute", "Table.RemoveRoutesFromPeer",
       "Table.CleanupStaleRoutes", "Table.Clear"]
      ["Table.Lookup", "Table.LookupAll", "Table.GetRoute", "Table.HasRoute"] = true := by decide +kernel

end MM.C08

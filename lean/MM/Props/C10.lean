/-
  C10 — Route table maintenance follows the update, loop and cleanup rules.

  "A stored route from an origin is replaced only by one with a newer sequence, or the same
   sequence and a strictly lower metric.  A route whose path contains the local agent is never
   stored.  A peer disconnect removes exactly the routes learned through that peer, and
   stale-route cleanup never removes locally originated routes."   For every interleaving of
   additions, withdrawals, peer disconnects and cleanups across all four route tables.

  The theorems are proved once for the generic keyed table (any `Cfg`; hence in its namespace
  `MM.C08`), so for the CIDR, domain, forward-key and agent tables (`cidrCfg`, `domCfg`, `fwdCfg`,
  `agCfg`); the four tables of a `Manager` share no state, so an interleaving across them is a
  history of each.
-/
import MM.Lemmas.C10
import MM.Props.C08
import MM.Model.C10

namespace MM.C08

/-! ### the tables as total maps `key → metric-sorted slice`

  `view t k` is the slice stored under `k` (empty when absent); the first element of `view t k`
  is the "best route" of the key.  Every table operation acts on the view as the corresponding
  operation on functions (`aAdd`, `aRemove`, `aFilter`), and every lookup is a function of the view:
  `best`, `domLookup`, `fwdLookup`, `agLookup` are defined through `get`, and the CIDR lookup is
  characterised on the view by `C08_lookup_on_view`.  C08–C10 are statements about this map. -/

section refinement
variable {K P : Type} [DecidableEq K]

def view (t : KTable K P) : K → Group P := get t

def upd (F : K → Group P) (k : K) (g : Group P) : K → Group P := fun k2 => if k2 = k then g else F k2

/-- `AddRoute` on the abstract map -/
def aAdd (c : Cfg K P) (self : Nat) (F : K → Group P) (e : Entry P) : K → Group P :=
  if !c.valid e.pay then F
  else if e.path.contains self then F
  else
    let k := c.keyOf (stored c e).pay
    match replG c.byHop (stored c e) (F k) with
    | some none => F
    | some (some g') => upd F k (sortG g')
    | none => upd F k (sortG (F k ++ [stored c e]))

/-- `RemoveRoute` on the abstract map -/
def aRemove (F : K → Group P) (k : K) (o : Nat) : K → Group P :=
  match removeG o (F k) with
  | none => F
  | some g' => upd F k g'

/-- `RemoveRoutesFromPeer` / `CleanupStaleRoutes` on the abstract map -/
def aFilter (keep : Entry P → Bool) (F : K → Group P) : K → Group P := fun k => (F k).filter keep

theorem view_addRoute (c : Cfg K P) (self : Nat) (t : KTable K P) (e : Entry P) :
    view (addRoute c self t e).1 = aAdd c self (view t) e := by
  unfold addRoute aAdd view
  by_cases hv : (!c.valid e.pay) = true
  · rw [if_pos hv, if_pos hv]
  rw [if_neg hv, if_neg hv]
  by_cases hp : e.path.contains self = true
  · rw [if_pos hp, if_pos hp]
  rw [if_neg hp, if_neg hp]
  dsimp only
  cases replG c.byHop (stored c e) (get t (c.keyOf (stored c e).pay)) with
  | none => funext k2; exact get_set ..
  | some o =>
    cases o with
    | none => rfl
    | some g' => funext k2; exact get_set ..

theorem view_removeRoute (t : KTable K P) (k : K) (o : Nat) :
    view (removeRoute t k o).1 = aRemove (view t) k o := by
  unfold removeRoute aRemove view
  cases removeG o (get t k) with
  | none => rfl
  | some g' =>
    cases g' with
    | nil => funext k2; exact get_del ..
    | cons x xs => funext k2; exact get_set ..

theorem view_filterT {t : KTable K P} (hn : (keys t).Nodup) (keep : Entry P → Bool) :
    view (filterT keep t) = aFilter keep (view t) := by
  funext k; exact get_filterT hn k

structure AState (K P : Type) where
  now : Nat
  map : K → Group P

def astep (c : Cfg K P) (self : Nat) (s : AState K P) : Op K P → AState K P
  | .add e => { s with map := aAdd c self s.map { e with born := s.now } }
  | .remove k o => { s with map := aRemove s.map k o }
  | .disconnect p => { s with map := aFilter (fun r => !(r.nextHop == p)) s.map }
  | .tick n => { s with now := s.now + n }
  | .cleanup a => { s with map := aFilter (fresh self s.now a) s.map }

def arun (c : Cfg K P) (self : Nat) (ops : List (Op K P)) : AState K P :=
  ops.foldl (astep c self) ⟨0, fun _ => []⟩

theorem astep_view {c : Cfg K P} {self : Nat} {s : State K P} (h : WF c self s.tab)
    (op : Op K P) :
    (⟨(step c self s op).now, view (step c self s op).tab⟩ : AState K P) =
      astep c self ⟨s.now, view s.tab⟩ op := by
  cases op with
  | add e => simp only [step, astep, view_addRoute]
  | remove k o => simp only [step, astep, view_removeRoute]
  | disconnect p => simp only [step, astep, removeFromPeer, view_filterT h.1]
  | tick n => rfl
  | cleanup m => simp only [step, astep, cleanupStale, view_filterT h.1]

/-- **Refinement**: after any history the association-list table of the model (= the Go map) *is*
    the abstract map the same history produces, and the clocks agree. -/
theorem C10_refinement (c : Cfg K P) (self : Nat) (ops : List (Op K P)) :
    view (run c self ops).tab = (arun c self ops).map ∧ (run c self ops).now = (arun c self ops).now := by
  -- both runs are folds over `ops`; well-formedness and "same clock, same map" travel together
  have h := List.foldl_rel (l := ops) (f := step c self) (g := astep c self) (a := State.init)
    (r := fun s A => WF c self s.tab ∧ (⟨s.now, view s.tab⟩ : AState K P) = A)
    ⟨WF_nil c self, rfl⟩ fun op _ s A ⟨hwf, e⟩ => ⟨WF_step hwf op, e ▸ astep_view hwf op⟩
  exact ⟨congrArg AState.map h.2, congrArg AState.now h.2⟩

/-- every slice of the view is what `WF` says: metric-sorted, one entry per slot, of that key -/
theorem view_wf {c : Cfg K P} {self : Nat} {t : KTable K P} (h : WF c self t) (k : K)
    (hne : view t k ≠ []) : GroupOK c self k (view t k) := h.get_ok hne

theorem best_eq_view (t : KTable K P) (k : K) : best t k = (view t k).head? := rfl

end refinement

/-- The CIDR lookup read on the abstract map: `LPM` with the slices of `view t` in place of
    `routes t`. -/
theorem C08_lookup_on_view {self : Nat} {t : CTable} (hwf : WF cidrCfg self t) (ip : IPAddr) :
    match lookup t ip with
    | some r => r ∈ view t (eff r.pay) ∧ contains r.pay ip = true ∧
        ∀ k, ∀ r' ∈ view t k, contains r'.pay ip = true →
          plen r'.pay ≤ plen r.pay ∧ (plen r'.pay = plen r.pay → r.metric ≤ r'.metric)
    | none => ∀ k, ∀ r' ∈ view t k, contains r'.pay ip = false := by
  have h := C08_lookup_correct hwf ip
  generalize lookup t ip = res at h ⊢
  cases res with
  | none => exact fun k r' hr' => h r' (mem_routes_of_get hr')
  | some r => exact ⟨hwf.mem_routes.mp h.1, h.2.1, fun k r' hr' => h.2.2 r' (mem_routes_of_get hr')⟩

/-! ### the rules -/

section generic
variable {K P : Type} [DecidableEq K]

/-- **Update rule.**  For a well-formed table, `AddRoute(e)`:
    * refused ⇒ the table is unchanged;
    * every route stored afterwards is the new one or was stored before;
    * every route stored before is still stored, unless it is the entry in the new route's slot
      (same key, same origin — and next hop for the agent table) **and the new route is newer**
      (greater sequence, or equal sequence and strictly lower metric);
    * accepted ⇒ the new route is stored, its path does not contain the local agent. -/
theorem C10_add_outcome {c : Cfg K P} {self : Nat} {t : KTable K P} (hwf : WF c self t)
    (e : Entry P) :
    let t' := (addRoute c self t e).1
    let ok := (addRoute c self t e).2
    (ok = false → t' = t) ∧
    (∀ x ∈ routes t', x = stored c e ∨ x ∈ routes t) ∧
    (∀ x ∈ routes t, x ∈ routes t' ∨
        (ok = true ∧ c.keyOf x.pay = c.keyOf (stored c e).pay ∧
          sameSlot c.byHop x (stored c e) = true ∧ newer (stored c e) x = true)) ∧
    (ok = true → stored c e ∈ routes t' ∧ self ∉ e.path) := by
  have hwf' := WF_addRoute hwf e
  rcases addRoute_cases c self t e with heq | ⟨hself, g', ha, heq⟩
  · rw [heq]
    exact ⟨fun _ => rfl, fun x hx => Or.inr hx, fun x hx => Or.inl hx, nofun⟩
  · rw [heq] at hwf' ⊢
    -- the new table differs from the old in the slice of the route's key only
    have hm {x : Entry P} := hwf.mem_routes_upd hwf' (fun k2 => get_set t _ k2 _) (x := x)
    refine ⟨nofun, fun x hx => ?_, fun x hx => ?_, fun _ => ⟨?_, hself⟩⟩
    · rw [hm] at hx
      split at hx
      · exact (ha.sub x (mem_sortG.mp hx)).imp_right mem_routes_of_get
      · exact Or.inr hx
    · rw [hm]
      split
      · next hk =>
        rw [hwf.mem_routes, hk] at hx
        exact (ha.kept x hx).imp mem_sortG.mpr fun h => ⟨rfl, hk, h⟩
      · exact Or.inl hx
    · rw [hm, if_pos rfl]
      exact mem_sortG.mpr ha.new

/-- The entry a newer route displaces is the only stored route in that slot — so "the stored
    route from this origin" is well defined, and an `AddRoute` in an occupied slot is accepted
    exactly when it is newer than that entry. -/
theorem C10_replace_rule {c : Cfg K P} {self : Nat} {t : KTable K P} (hwf : WF c self t)
    (e old : Entry P) (hv : c.valid e.pay = true) (hp : self ∉ e.path)
    (hold : old ∈ routes t) (hk : c.keyOf old.pay = c.keyOf (stored c e).pay)
    (hs : sameSlot c.byHop old (stored c e) = true) :
    (addRoute c self t e).2 = newer (stored c e) old := by
  unfold addRoute
  rw [if_neg (by simp [hv]), if_neg (by simpa using hp)]
  dsimp only
  generalize stored c e = e' at *
  rw [hwf.mem_routes, hk] at hold
  rcases split_first (sameSlot c.byHop · e' = true) (get t (c.keyOf e'.pay)) with
    hno | ⟨pre, y, post, hg, hpre, hys⟩
  · exact absurd hs (hno old hold)
  · -- the scan stops at `old`: slots are distinct within a slice
    have hy : y ∈ get t (c.keyOf e'.pay) := hg ▸ List.mem_append_cons_self
    have : y = old := inj_of_nodup_map (hwf.slots_get _) hy hold
      ((sameSlot_iff.mp hys).trans (sameSlot_iff.mp hs).symm)
    rw [hg, replG_append hpre hys, this]
    cases newer e' old <;> rfl

/-- **No self path**: after any history no stored route's path contains the local agent. -/
theorem C10_no_self_path (c : Cfg K P) (self : Nat) (ops : List (Op K P)) :
    ∀ r ∈ routes (run c self ops).tab, self ∉ r.path :=
  have h := WF_run c self ops
  fun _ hr => (h.entry_get (h.mem_routes.mp hr)).2.2

/-- **Disconnect is exact**: the routes after `RemoveRoutesFromPeer(p)` are exactly the routes
    whose next hop is not `p`, in their old order (any table, no hypothesis). -/
theorem C10_disconnect_exact (t : KTable K P) (p : Nat) :
    routes (removeFromPeer t p) = (routes t).filter (fun r => r.nextHop != p) :=
  routes_filterT _ t

theorem fresh_iff (self now maxAge : Nat) (r : Entry P) :
    fresh self now maxAge r = true ↔ (r.origin = self ∨ now - r.born ≤ maxAge) := by
  simp [fresh]

/-- **Cleanup is exact**: the routes after `CleanupStaleRoutes` are the local ones and the fresh
    ones (`fresh_iff`), in their old order. -/
theorem C10_cleanup_exact (self now maxAge : Nat) (t : KTable K P) :
    routes (cleanupStale self now maxAge t) = (routes t).filter (fresh self now maxAge) :=
  routes_filterT _ t

/-- **Cleanup keeps local routes**, whatever their age. -/
theorem C10_cleanup_keeps_local (self now maxAge : Nat) (t : KTable K P) {r : Entry P}
    (hr : r ∈ routes t) (hl : r.origin = self) : r ∈ routes (cleanupStale self now maxAge t) := by
  rw [C10_cleanup_exact]
  exact List.mem_filter.mpr ⟨hr, (fresh_iff _ _ _ _).mpr (Or.inl hl)⟩

/-- **Withdrawal**: `RemoveRoute(key, origin)` removes one stored route of that key and origin
    and nothing else (only the agent table can hold several; `removeG` takes the first); it
    answers `false` and changes nothing when there is none. -/
theorem C10_remove_outcome {c : Cfg K P} {self : Nat} {t : KTable K P} (hwf : WF c self t)
    (k : K) (o : Nat) :
    let t' := (removeRoute t k o).1
    let ok := (removeRoute t k o).2
    (ok = false → t' = t ∧ ∀ x ∈ routes t, c.keyOf x.pay = k → x.origin ≠ o) ∧
    (ok = true → ∃ x ∈ routes t, c.keyOf x.pay = k ∧ x.origin = o ∧
        ∀ y, y ∈ routes t' ↔ (y ∈ routes t ∧ y ≠ x)) := by
  have hwf' := WF_removeRoute hwf k o
  -- `get` of the new table at every key, whether the slice was cut (`set`) or emptied (`del`)
  have hv := congrFun (view_removeRoute t k o)
  unfold view aRemove at hv
  rcases split_first (·.origin = o) (get t k) with hno | ⟨pre, x, post, hg, hpre, hxo⟩
  · have heq : removeRoute t k o = (t, false) := by unfold removeRoute; rw [removeG_eq_none hno]
    rw [heq]
    exact ⟨fun _ => ⟨rfl, fun y hy hky => hno y (by rwa [hwf.mem_routes, hky] at hy)⟩, nofun⟩
  · have hok : (removeRoute t k o).2 = true := by
      unfold removeRoute; rw [hg, removeG_append hpre hxo]; cases pre ++ post <;> rfl
    rw [hg, removeG_append hpre hxo] at hv
    have hx : x ∈ get t k := hg ▸ List.mem_append_cons_self
    have hxk := (hwf.entry_get hx).1
    -- entries of a slice are distinct (their slots are), so cutting `x` out removes `x` only
    have hnd : (x :: (pre ++ post)).Nodup :=
      (hg ▸ nodup_of_nodup_map (hwf.slots_get k)).perm List.perm_middle
    refine ⟨fun h => absurd (hok.symm.trans h) nofun, fun _ => ⟨x, mem_routes_of_get hx, hxk, hxo, fun y => ?_⟩⟩
    rw [hwf.mem_routes_upd hwf' hv, hwf.mem_routes]
    split
    · next hky =>
      rw [hky, hg, List.perm_middle.mem_iff, List.mem_cons]
      exact ⟨fun h => ⟨Or.inr h, fun e => (List.nodup_cons.mp hnd).1 (e ▸ h)⟩,
        fun ⟨h, hne⟩ => h.resolve_left hne⟩
    · next hky => exact ⟨fun h => ⟨h, fun e => hky (e ▸ hxk)⟩, fun h => h.1⟩

end generic

/-! ### the statement, for the four tables -/

/-- C10 for one table kind: after any history the table is well formed (so the theorems above
    apply to the next operation) and no stored path contains the local agent. -/
def C10_for {K P : Type} [DecidableEq K] (c : Cfg K P) : Prop :=
  ∀ (self : Nat) (ops : List (Op K P)),
    WF c self (run c self ops).tab ∧ ∀ r ∈ routes (run c self ops).tab, self ∉ r.path

def C10_statement : Prop :=
  C10_for cidrCfg ∧ (∀ S, C10_for (MM.C09.domCfg S)) ∧ C10_for MM.C09.fwdCfg ∧ C10_for MM.C09.agCfg

private theorem C10_for_any {K P : Type} [DecidableEq K] (c : Cfg K P) : C10_for c :=
  fun self ops => ⟨WF_run c self ops, C10_no_self_path c self ops⟩

/-- **C10 holds** on all four tables: every reachable table is well formed — hence
    `C10_add_outcome`, `C10_replace_rule`, `C10_remove_outcome` apply at every step, and
    `C10_disconnect_exact`, `C10_cleanup_exact` hold unconditionally. -/
theorem C10_holds : C10_statement :=
  ⟨C10_for_any cidrCfg, fun S => C10_for_any (MM.C09.domCfg S), C10_for_any MM.C09.fwdCfg, C10_for_any MM.C09.agCfg⟩

/-! ### the Manager wrappers (CIDR part) -/

open MM.C10 in
/-- The `Manager` entry points `AddLocalRoute`, `RemoveLocalRoute`, `ProcessRouteAdvertise`,
    `ProcessRouteWithdraw`, `HandlePeerDisconnect`, `CleanupStaleRoutes` keep the CIDR table
    well formed: each is one table operation, so all the rules above apply to it. -/
theorem C10_manager_inv {self : Nat} {m : Mgr} (h : WF cidrCfg self m.st.tab) :
    (∀ n metric, WF cidrCfg self (m.addLocal self n metric).1.st.tab) ∧
    (∀ n, WF cidrCfg self (m.removeLocal self n).1.st.tab) ∧
    (∀ f o s p n metric, WF cidrCfg self (m.advertise self f o s p n metric).1.st.tab) ∧
    (∀ o n, WF cidrCfg self (m.withdraw o n).1.st.tab) ∧
    (∀ p, WF cidrCfg self (m.disconnect p).st.tab) ∧
    (∀ a, WF cidrCfg self (m.cleanup self a).st.tab) := by
  refine ⟨fun _ _ => WF_addRoute h _, fun n => ?_, fun _ _ _ _ _ _ => WF_addRoute h _,
    fun _ _ => WF_removeRoute h _ _, fun _ => WF_filterT h _, fun _ => WF_filterT h _⟩
  fun_cases Mgr.removeLocal self m n
  · exact h
  · exact WF_removeRoute h _ _

/-! ### non-vacuity -/

private def e1 (o m s : Nat) (path : List Nat) : Entry Nat := ⟨7, o, o, m, s, path, 0⟩

/-- agent table (`agCfg`: the key is the payload, an agent id): same sequence + higher metric
    refused, same sequence + lower metric accepted, older sequence refused, newer sequence accepted
    whatever the metric, self in path refused, disconnect and cleanup behave as stated. -/
example :
    let t0 := (run MM.C09.agCfg 1 [.add (e1 2 5 3 [2])]).tab
    (addRoute MM.C09.agCfg 1 t0 (e1 2 6 3 [2])).2 = false ∧
    (addRoute MM.C09.agCfg 1 t0 (e1 2 4 3 [2])).2 = true ∧
    (addRoute MM.C09.agCfg 1 t0 (e1 2 0 2 [2])).2 = false ∧
    (addRoute MM.C09.agCfg 1 t0 (e1 2 9 4 [2])).2 = true ∧
    (addRoute MM.C09.agCfg 1 t0 (e1 3 1 9 [3, 1])).2 = false ∧
    routes (removeFromPeer t0 2) = [] ∧
    routes (cleanupStale 1 10 2 (run MM.C09.agCfg 1 [.add (e1 2 5 3 [2]), .add (e1 1 5 3 [])]).tab)
      = [e1 1 5 3 []] := by decide

/-- hypotheses of `C10_add_outcome` / `C10_remove_outcome` (`WF`) and of `C10_replace_rule` (a valid
    argument without the local agent in its path, and a stored route in its slot) are met by a
    concrete table: agent 7 reached through next hops 2 and 3, an update arriving through 2. -/
example :
    let t := (run MM.C09.agCfg 1 [.add ⟨7, 2, 7, 3, 1, [2, 7], 0⟩, .add ⟨7, 3, 7, 2, 1, [3, 7], 0⟩]).tab
    let e : Entry Nat := ⟨7, 2, 7, 1, 1, [2, 7], 0⟩
    let old : Entry Nat := ⟨7, 2, 7, 3, 1, [2, 7], 0⟩
    WF MM.C09.agCfg 1 t ∧ MM.C09.agCfg.valid e.pay = true ∧ 1 ∉ e.path ∧ old ∈ routes t ∧
    MM.C09.agCfg.keyOf old.pay = MM.C09.agCfg.keyOf (stored MM.C09.agCfg e).pay ∧
    sameSlot MM.C09.agCfg.byHop old (stored MM.C09.agCfg e) = true ∧
    (addRoute MM.C09.agCfg 1 t e).2 = true ∧ (routes t).length = 2 :=
  ⟨WF_run _ _ _, by decide, by decide, by decide, by decide, by decide, by decide, by decide⟩

/-- hypothesis of `C10_manager_inv`: a manager whose table is not empty -/
example :
    let m := ((({} : MM.C10.Mgr).addLocal 1 ⟨4, 0x0a010203, 8, 32⟩ 5).1.advertise 1 2 3 1 [2, 3] ⟨4, 0x0a000000, 8, 32⟩ 65535).1
    WF cidrCfg 1 m.st.tab ∧ (routes m.st.tab).map (·.metric) = [0, 5] := by
  refine ⟨?_, by decide⟩
  have h1 := (C10_manager_inv (self := 1) (m := {}) (WF_nil _ _)).1 ⟨4, 0x0a010203, 8, 32⟩ 5
  exact (C10_manager_inv h1).2.2.1 2 3 1 [2, 3] ⟨4, 0x0a000000, 8, 32⟩ 65535

/-- the refinement on a concrete history: same map, pointwise -/
example :
    let ops : List (Op Nat Nat) := [.add ⟨7, 2, 7, 3, 1, [2, 7], 0⟩, .tick 3, .add ⟨7, 3, 7, 2, 1, [3, 7], 0⟩,
      .cleanup 2, .remove 7 7]
    (arun MM.C09.agCfg 1 ops).map 7 = [] ∧ view (run MM.C09.agCfg 1 ops).tab 7 = [] ∧
    (arun MM.C09.agCfg 1 (ops.take 3)).map 7 = view (run MM.C09.agCfg 1 (ops.take 3)).tab 7 := by decide

end MM.C08

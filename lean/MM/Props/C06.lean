/-
  C06 — Route announcements arrive intact for any local route set.

  "Whatever CIDR, domain and port-forward routes an agent originates, its neighbours decode
   exactly that set of routes from its announcement.  The same holds for every route group it
   forwards or replays to a new peer.  A route set that cannot fit in one announcement is never
   silently truncated or wrapped into a different set."

  Model: MM/Model/C06.lean over the C05 codecs; tied to /repo/internal/flood/flood.go and the
  neighbour's real decode + HandleRouteAdvertise by T-diff (engine c06).
  The pinned code sent ONE advertisement per route list (`unsplit`): refuted below
  (`C06_single_advertisement_refuted`).  With fixes/C06-advertise-chunking.patch the sender
  splits (`advertise`), and the full statement holds for origination and replay
  (`C06_announce_intact`, `C06_replay_intact`); forwarding keeps the received list and, for an
  advertisement with a plaintext path, is intact whenever the forwarded payload still fits a frame
  and both id lists stay within their 1-byte counts (`C06_forward_intact`).
-/
import MM.Lemmas.C06
import MM.Gen.C06

namespace MM.C06
open MM.C05

/-- The limits of the model are the ones in the source (regenerated on every run by
    tools/c06_extract.go, which also checks the shape of `advertiseBudget`, of the `splitRoutes`
    test and that both senders go through `splitRoutes`). -/
theorem C06_constants_tie :
    Gen.C06.maxRoutesPerAdvertise = 255 ∧ Gen.C06.advertiseHeadroom = headroom ∧
    Gen.C06.budgetIsPayloadMinusHeadroomMinusFixed = true ∧
    Gen.C06.splitClosesGroupOnCountOrSize = true ∧ Gen.C06.announceAndFullTableSplit = true ∧
    Gen.C06.withdrawSplits = true := by
  decide

/-- Every frame the fixed sender emits fits: at most 255 routes and at most
    MaxPayloadSize − headroom bytes (a well-formed route has at most 516 bytes and the budget is at
    least 6914, so no route is larger than the budget). -/
theorem C06_groups_fit (b : Base) (hb : baseWF b = true) (es : List Entry)
    (hes : es.all entryWF = true) :
    ∀ g ∈ splitRoutes (advertiseBudget b) (es.map toRoute),
      g.length ≤ 255 ∧ fixedLen b + sizeOf g ≤ maxPayload - headroom :=
  split_groups_fit (fixedLen_le b hb) es hes

/-- **Full statement for one route list** (origination and replay): every frame is delivered and
    decodes, and the neighbour is handed exactly the originated entries, in order — for ANY number
    of entries. -/
theorem C06_advertise_intact (b : Base) (hb : baseWF b = true) (seq0 : Nat) (es : List Entry)
    (hes : es.all entryWF = true) (hseq : seq0 + es.length + 2 ≤ 2 ^ 64) :
    learnAll (advertise b seq0 (es.map toRoute)) = some es := by
  have hcount := splitRoutes_length_le (advertiseBudget b) (es.map toRoute)
  rw [List.length_map] at hcount
  unfold advertise
  rw [learnAll_go b hb _ (seq0 + 1) (by omega), splitRoutes_flatten,
    filterMap_map_eq_self es fun e he => classify_toRoute e (List.all_eq_true.mp hes e he)]
  intro g hg
  obtain ⟨h1, h2⟩ := C06_groups_fit b hb es hes g hg
  exact ⟨h1, split_groups_all (fun e he => toRoute_wf e (List.all_eq_true.mp hes e he)) g hg,
    Nat.le_trans h2 (Nat.sub_le ..)⟩

/-- `AnnounceLocalRoutes`: the neighbour learns every originated route and the agent presence
    route, whatever their number. -/
theorem C06_announce_intact (self name : Bytes) (seq0 : Nat) (es : List Entry)
    (hself : entryWF (.agent self 0) = true) (hname : name.length < 256)
    (hes : es.all entryWF = true) (hseq : seq0 + es.length + 3 ≤ 2 ^ 64) :
    learnAll (announceLocal self name seq0 es) = some (es ++ [Entry.agent self 0]) := by
  have hl : self.length = 16 := ((entryWF_iff _).mp hself).1
  have hid : ids.wf [self] = true := listN_wf.mpr ⟨(show 1 < 256 ^ 1 by decide), by simp [hl]⟩
  have hb : baseWF (announceBase self name) = true := baseWF_iff.mpr ⟨hl, hname, hid, hid⟩
  have : localRoutes self es = (es ++ [Entry.agent self 0]).map toRoute := by simp [localRoutes]
  unfold announceLocal
  rw [this]
  exact C06_advertise_intact _ hb seq0 _ (by simp [hes, hself]) (by simp; omega)

/-- `SendFullTable`, one origin group: the new peer learns every stored route of that origin. -/
theorem C06_replay_intact (self origin name : Bytes) (storedPath : List Bytes) (seq0 : Nat)
    (es : List Entry)
    (hb : baseWF (replayBase self origin name storedPath) = true)
    (hes : es.all entryWF = true) (hseq : seq0 + es.length + 2 ≤ 2 ^ 64) :
    learnAll (advertise (replayBase self origin name storedPath) seq0 (es.map toRoute)) = some es :=
  C06_advertise_intact _ hb seq0 es hes hseq

/-! ### the pinned behaviour (one advertisement per route list) is refuted -/

/-- No single ROUTE_ADVERTISE can carry 256 or more routes: whatever decodes has fewer. -/
theorem single_advertisement_lt_256 (payload : Bytes) (a : RouteAdv)
    (h : decodeRouteAdvertise payload = some a) : a.2.2.2.1.length < 256 :=
  (routeAdvertise_wf_iff.mp (decodeTop_wf routeAdvertise_lawful.decwf 28 payload a h)).2.2.2.1.1

theorem learn_length_lt {q : Bytes} {es : List Entry} (h : learn q = some es) : es.length < 256 := by
  unfold learn at h
  split at h
  · cases h
  · next a ha =>
    cases h
    exact Nat.lt_of_le_of_lt (List.length_filterMap_le ..) (single_advertisement_lt_256 q a ha)

def C06_statement_unsplit : Prop :=
  ∀ (b : Base) (seq0 : Nat) (es : List Entry), baseWF b = true → es.all entryWF = true →
    seq0 + es.length + 2 ≤ 2 ^ 64 →
    learnAll (unsplit b seq0 (es.map toRoute)) = some es

/-- 256 distinct /32 routes -/
def witnessEntries : List Entry :=
  (List.range 256).map fun i => Entry.cidr 1 32 [10, 0, UInt8.ofNat (i / 256), UInt8.ofNat (i % 256)] 0

def witnessBase : Base :=
  { origin := List.replicate 16 1, name := [], path := [List.replicate 16 1], seenBy := [List.replicate 16 1] }

theorem witnessEntries_wf : witnessEntries.all entryWF = true ∧ witnessEntries.all isCidr = true ∧
    witnessEntries.length = 256 := by
  simp [witnessEntries, entryWF, isCidr]

/-- The pinned sender (one advertisement whatever the size) cannot deliver 256 routes: the
    neighbour decodes fewer than 256 or nothing. -/
theorem C06_single_advertisement_refuted : ¬ C06_statement_unsplit := by
  intro h
  obtain ⟨hwf, -, hlen⟩ := witnessEntries_wf
  obtain ⟨q, -, hq⟩ := Option.bind_eq_some_iff.mp (learnAll_singleton _ ▸
    h witnessBase 0 witnessEntries (by decide) hwf (by rw [hlen]; decide))
  exact absurd (learn_length_lt hq) (by rw [hlen]; decide)

/-! ### withdrawals -/

/-- `WithdrawLocalRoutes` (fixed): for ANY number of local CIDR routes every ROUTE_WITHDRAW frame
    is deliverable and decodable and the neighbour is told to remove exactly the withdrawn
    networks, in order. -/
theorem C06_withdraw_intact (self : Bytes) (hself : self.length = 16) (seq0 : Nat) (es : List Entry)
    (hes : es.all entryWF = true) (hc : es.all isCidr = true)
    (hseq : seq0 + es.length + 2 ≤ 2 ^ 64) :
    withdrawAll (withdrawLocal self seq0 es) = some es := by
  have hcount := splitRoutes_length_le (withdrawBudget self) (es.map toRoute)
  rw [List.length_map] at hcount
  unfold withdrawLocal
  rw [withdrawAll_go self hself _ (seq0 + 1) (by omega), splitRoutes_flatten,
    filterMap_map_eq_self es fun e he => toIPNet_toRoute e (List.all_eq_true.mp hes e he)
      (List.all_eq_true.mp hc e he)]
  intro g hg
  obtain ⟨h1, h2⟩ := split_groups_fit (fixed := withdrawFixed self)
    (by rw [withdrawFixed_eq self hself]; decide) es hes g hg
  exact ⟨h1, split_groups_all (fun e he => toRoute_wdwf e (List.all_eq_true.mp hes e he)
    (List.all_eq_true.mp hc e he)) g hg, Nat.le_trans h2 (Nat.sub_le ..)⟩

/-- No single ROUTE_WITHDRAW can name 256 or more routes. -/
theorem single_withdraw_lt_256 (payload : Bytes) (w : RouteWd)
    (h : decodeRouteWithdraw payload = some w) : w.2.2.1.length < 256 := by
  have hw := decodeTop_wf routeWithdraw_lawful.decwf 26 payload w h
  simp only [routeWithdrawC, seq_wf, listN_wf] at hw
  exact hw.2.2.1.1

theorem learnWithdraw_length_lt {q : Bytes} {es : List Entry} (h : learnWithdraw q = some es) :
    es.length < 256 := by
  unfold learnWithdraw at h
  split at h
  · cases h
  · next w hw =>
    cases h
    exact Nat.lt_of_le_of_lt (List.length_filterMap_le ..) (single_withdraw_lt_256 q w hw)

def C06_withdraw_statement_unsplit : Prop :=
  ∀ (self : Bytes) (seq0 : Nat) (es : List Entry), self.length = 16 → es.all entryWF = true →
    es.all isCidr = true → seq0 + es.length + 2 ≤ 2 ^ 64 →
    withdrawAll (withdrawUnsplit self seq0 es) = some es

/-- The pinned `WithdrawLocalRoutes` (one message whatever the size) cannot withdraw 256 routes. -/
theorem C06_single_withdraw_refuted : ¬ C06_withdraw_statement_unsplit := by
  intro h
  obtain ⟨hwf, hc, hlen⟩ := witnessEntries_wf
  obtain ⟨q, -, hq⟩ := Option.bind_eq_some_iff.mp (withdrawAll_singleton _ ▸
    h (List.replicate 16 1) 0 witnessEntries (by decide) hwf hc (by rw [hlen]; decide))
  exact absurd (learnWithdraw_length_lt hq) (by rw [hlen]; decide)

/-! ### forwarding -/

/-- `floodAdvertisementEncrypted` on an advertisement with a plaintext path: the next neighbour is
    handed the same routes as long as the forwarded payload (path and seen-by list each one id
    longer) still fits a frame and the two lists stay within their 1-byte counts. -/
theorem C06_forward_intact (self : Bytes) (a : RouteAdv) (hself : self.length = 16)
    (hwf : routeAdvertiseC.wf a = true) (hplain : a.2.2.2.2.1.1 = false)
    (path : List Bytes) (rest : Bytes) (hpath : ids.dec a.2.2.2.2.1.2 = some (path, rest))
    (hpl : path.length < 255) (hsl : a.2.2.2.2.2.length < 255)
    (hfit : (forwardAdv self a).length ≤ maxPayload) :
    (deliver (forwardAdv self a)).bind learn = some (a.2.2.2.1.filterMap classify) := by
  obtain ⟨origin, name, sq, routes, ⟨enc, data⟩, seenBy⟩ := a
  simp only at hplain hpath hsl
  subst hplain
  obtain ⟨ho, hn, hs, hr, -, hsb⟩ := routeAdvertise_wf_iff.mp hwf
  have hself' : id16.wf self = true := bytesN_wf.mpr hself
  have hpw := (listN_wf.mp (ids_lawful.decwf _ _ _ hpath)).2
  have hnewpath : ids.wf (self :: path) = true :=
    listN_wf.mpr ⟨Nat.succ_lt_succ hpl, by simp [hself', hpw]⟩
  have hsb2 : ids.wf (seenBy ++ [self]) = true :=
    listN_wf.mpr ⟨by simp; omega, by simp [hself', (listN_wf.mp hsb).2]⟩
  have hfwd : forwardAdv self (origin, name, sq, routes, (false, data), seenBy) =
      routeAdvertiseC.enc (origin, name, sq, routes, (false, ids.enc (self :: path)), seenBy ++ [self]) := by
    simp [forwardAdv, hpath]
  have hwf2 := routeAdvertise_wf_iff.mpr ⟨ho, hn, hs, hr, encPath_wf hnewpath, hsb2⟩
  rw [hfwd] at hfit ⊢
  rw [deliver_of_le hfit, Option.bind_some, learn_enc hwf2]

/-! vacuity -/

example : baseWF witnessBase = true := by decide
example : (witnessEntries.take 3).all entryWF = true := by decide
example : entryWF (.domain [97, 46, 98] false 1) = true ∧ entryWF (.forward [107] [116] 2) = true ∧
    entryWF (.agent (List.replicate 16 1) 0) = true := by decide

end MM.C06

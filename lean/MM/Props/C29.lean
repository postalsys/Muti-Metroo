/-
  C29 — A validly signed command takes effect at most once per agent.

  "An agent acts on a given signed sleep or wake command at most once.  Replaying the same command
   later, even within its validity window and after arbitrary other traffic or cache maintenance,
   changes nothing."

  Model: MM/Model/C29.lean — histories (deliveries of genuine, replayed and forged commands from any
  peer, clock advance, cache cleanups with any legal choice of size-eviction victims, peer
  connections) over the flooder model of MM/Model/C28.lean, after
    fixes/C29-verify-before-mark.patch  (a command enters the seen cache only after it verified),
    fixes/C29-sleep-cache-ttl.patch     (sleep/wake commands are remembered for max(TTL, 2·window)).
  "Acts on" = `HandleSleepCommand` / `HandleWakeCommand` returns true (the agent then calls
  Sleep()/Wake() and forwards).

  * `C29_partial`: if no cleanup along the history has to size-evict, every signed command is
    accepted at most once — for every configuration with a signing key (any TTL, any window below the
    maximal `Duration`), every signature predicate, every interleaving of genuine, replayed and forged
    traffic, cleanups and clock advance.
  * `C29_statement` (at most once over EVERY history) remains REFUTED (`C29_refuted`): the cache is
    size-limited and evicts arbitrary entries, so a history with more than MaxSeenCacheSize VALIDLY
    SIGNED commands inside two windows can evict a genuine entry whose replay is then accepted.
    After the fix this needs the key holder's own traffic (forged commands no longer enter the
    cache); it is kept as an open finding.
  * `C29_pinned_ttl_refuted`, `C29_pinned_forged_evict_refuted`: the two defects of the code before
    the fixes (regression witnesses; the fixed model refuses both replays).
-/
import MM.Lemmas.C29
import MM.Gen.LockC29

namespace MM.C29
open MM.C28

/-! ### Tie of the step granularity to the source (facts regenerated by tools/lockshape.go)

    A delivery is one atomic step of a history because the seen-cache lookup and insert of
    `markSleepCmdSeen` form ONE critical section on `sleepCmdMu` (a single locked test-and-set: two
    concurrent deliveries of one command cannot both find it new); a cleanup is one step because
    `cleanup()` calls `cleanupSleepCmdCache` with that lock held. -/

theorem C29_tie_test_and_set :
    Gen.LockC29.acquisitions.lookup "Flooder.markSleepCmdSeen" = some 1 ∧
    (Gen.LockC29.accesses.all fun a => a.1 != "Flooder.markSleepCmdSeen" || a.2.2.2 == "W") = true ∧
    Gen.LockC29.accesses.contains ("Flooder.markSleepCmdSeen", "sleepCmdSeenCache", false, "W") = true ∧
    Gen.LockC29.accesses.contains ("Flooder.markSleepCmdSeen", "sleepCmdSeenCache", true, "W") = true := by
  decide +kernel

theorem C29_tie_cleanup_locked :
    Gen.LockC29.calls.contains ("Flooder.cleanup", "cleanupSleepCmdCache", "W") = true := by
  decide +kernel

/-- The full property: over every history, every signed command is accepted at most once. -/
def C29_statement : Prop :=
  ∀ (V : Verifier) (cfg : FCfg) (target : Cmd) (now0 : Int) (evs : List Ev),
    cfg.signing = true → cfg.window < 2^63 - 1 → accepts V cfg target (HState.init now0) evs ≤ 1

/-- `DefaultFloodConfig()`: TTL = window = 5 min, 10 000 entries. -/
def dCfg : FCfg := { signing := true, window := 300000000000, ttl := 300000000000, maxSize := 10000, localID := 0, peers := [1, 2, 3] }
def t0 : Int := 1800000000500000000
/-- A genuine command stamped 299 s ahead of the receiver's clock (inside the window). -/
def genuineAhead : Cmd := { origin := 4, id := 7, ts := 1800000000 + 299, sig := .signed 0 .sleep 4 7 (1800000000 + 299), seenBy := [] }

def ttlHistory : List Ev :=
  [.deliver .sleep 1 genuineAhead, .advance 301000000000, .cleanup [], .deliver .sleep 2 genuineAhead]

/-- Before the fix (cache TTL = SeenCacheTTL = window): the entry expires after 301 s while the
    command, stamped 299 s ahead, is still inside its window — accepted twice.  Fixed code: once. -/
theorem C29_pinned_ttl_refuted :
    acceptsPinned idealV dCfg genuineAhead (HState.init t0) ttlHistory = 2 ∧
    accepts idealV dCfg genuineAhead (HState.init t0) ttlHistory = 1 := by
  decide

def sCfg : FCfg := { dCfg with maxSize := 2 }
def genuine : Cmd := { origin := 4, id := 7, ts := 1800000000, sig := .signed 0 .sleep 4 7 1800000000, seenBy := [] }
def forged (i : Nat) : Cmd := { origin := 4, id := 100 + i, ts := 1800000000, sig := .garbage, seenBy := [] }
def other (i : Nat) : Cmd := { origin := 4, id := 100 + i, ts := 1800000000, sig := .signed 0 .sleep 4 (100 + i) 1800000000, seenBy := [] }

def forgedEvictHistory : List Ev :=
  [.deliver .sleep 1 genuine, .deliver .sleep 1 (forged 1), .deliver .sleep 1 (forged 2), .deliver .sleep 1 (forged 3),
   .cleanup [(4, 7), (4, 101)], .deliver .sleep 1 genuine]

/-- Before the fix forged ids were marked seen before verification: a peer WITHOUT the key fills
    the cache, size eviction drops the genuine entry, the replay is accepted.  Fixed code: forged
    commands never enter the cache, nothing is evicted, the replay is refused. -/
theorem C29_pinned_forged_evict_refuted :
    acceptsPinned idealV sCfg genuine (HState.init t0) forgedEvictHistory = 2 ∧
    accepts idealV sCfg genuine (HState.init t0) forgedEvictHistory = 1 := by
  decide +kernel

/-- What is left after the fixes: eviction by more than MaxSeenCacheSize VALIDLY signed commands. -/
def evictHistory : List Ev :=
  [.deliver .sleep 1 genuine, .deliver .sleep 1 (other 1), .deliver .sleep 1 (other 2), .deliver .sleep 1 (other 3),
   .cleanup [(4, 7), (4, 101)], .deliver .sleep 1 genuine]

theorem C29_evict_witness : accepts idealV sCfg genuine (HState.init t0) evictHistory = 2 := by
  decide

theorem C29_refuted : ¬ C29_statement := by
  intro h
  have := h idealV sCfg genuine t0 evictHistory (by decide) (by decide)
  rw [C29_evict_witness] at this
  exact absurd this (by decide)

/-- "No size eviction happens along the history": at every cleanup the cache that survives the
    TTL pass fits in `MaxSeenCacheSize`. -/
def noEvict (V : Verifier) (cfg : FCfg) : HState → List Ev → Bool
  | _, [] => true
  | s, e :: es =>
    (match e with
      | .cleanup _ => decide ((expire s.f.seen s.now (sleepTtl cfg)).length ≤ cfg.maxSize)
      | _ => true) && noEvict V cfg (stepEv V cfg s e).1 es

theorem step_protected (V : Verifier) (cfg : FCfg) (target : Cmd) (s : HState) (e : Ev)
    (hne : noEvict V cfg s [e] = true) (hp : Protected cfg target s) :
    Protected cfg target (stepEv V cfg s e).1 := by
  obtain ⟨h1, h2⟩ := hp
  have hnow := stepEv_now_le V cfg s e
  refine ⟨Int.le_trans h1 hnow, h2.elim (fun h => ?_) fun h => Or.inr (Int.lt_of_lt_of_le h hnow)⟩
  cases e with
  | deliver k from_ c => exact Or.inl (handle_held V cfg s.f s.now k from_ c h h1)
  | advance d => exact Or.inl h
  | cleanup vs =>
    show held (cleanup cfg s.f.seen s.now vs) _ _ _ ∨ s.now > _
    rw [cleanup_fit vs (by simpa [noEvict] using hne)]
    -- an entry stamped inside the window outlives it: the cache TTL is at least two windows
    have httl := sleepTtl_ge cfg
    exact (expire_held h).imp_right fun _ => by omega
  | peer p =>
    show held (onPeerConnected V cfg s.f s.now p).1.seen _ _ _ ∨ _
    rw [onPeerConnected_seen]
    exact Or.inl h

theorem noEvict_cons {V : Verifier} {cfg : FCfg} {s : HState} {e : Ev} {es : List Ev}
    (h : noEvict V cfg s (e :: es) = true) :
    noEvict V cfg s [e] = true ∧ noEvict V cfg (stepEv V cfg s e).1 es = true := by
  simpa only [noEvict, Bool.and_eq_true, Bool.and_true] using h

theorem accepts_protected (V : Verifier) (cfg : FCfg) (target : Cmd)
    (hk : cfg.signing = true) (hw : cfg.window < 2^63 - 1) :
    ∀ (evs : List Ev) (s : HState), noEvict V cfg s evs = true → Protected cfg target s →
      accepts V cfg target s evs = 0
  | [], _, _, _ => rfl
  | e :: es, s, hne, hp => by
    obtain ⟨hne1, hne2⟩ := noEvict_cons hne
    rcases accepts_cons V cfg target s e es with h | ⟨k, from_, c, rfl, hacc, hsame, _⟩
    · exact h.trans (accepts_protected V cfg target hk hw es _ hne2 (step_protected V cfg target s e hne1 hp))
    · -- impossible: the key of an accepted command was new, so it is not held, and `now` is inside its window
      obtain ⟨hnew, _, _, hhi⟩ := accepted_target hk hw hacc hsame
      exact hp.2.elim (fun h => absurd h (hasKey_false_not_held hnew)) fun h => absurd hhi (Int.not_le.mpr h)

/-- **At most once** when nothing is size-evicted: from every starting state, over every history in
    which no cleanup has to size-evict (`noEvict`, a decidable condition on the history), every signed
    command is accepted at most once. -/
theorem C29_partial (V : Verifier) (cfg : FCfg) (target : Cmd)
    (hk : cfg.signing = true) (hw : cfg.window < 2^63 - 1) :
    ∀ (evs : List Ev) (s : HState), noEvict V cfg s evs = true → accepts V cfg target s evs ≤ 1 := by
  intro evs
  induction evs with
  | nil => exact fun _ _ => Nat.zero_le _
  | cons e es ih =>
    intro s hne
    obtain ⟨_, hne2⟩ := noEvict_cons hne
    rcases accepts_cons V cfg target s e es with h | ⟨k, from_, c, rfl, hacc, hsame, h⟩
    · exact h ▸ ih _ hne2
    · -- the first acceptance of `target` protects it for the rest of the history
      rw [h, accepts_protected V cfg target hk hw es _ hne2 (accept_protects V cfg target s k from_ c hk hw hacc hsame)]
      exact Nat.le_refl _

/-! The hypotheses of `C29_partial` are satisfiable and the positive case exists (default configuration,
    the TTL replay history: no eviction, accepted exactly once); the forged-flood history needs no
    eviction either, and `evictHistory` is what `noEvict` excludes. -/

example : dCfg.signing = true ∧ dCfg.window < 2^63 - 1 := by decide
example : noEvict idealV dCfg (HState.init t0) ttlHistory = true := by decide
set_option maxRecDepth 8000 in
example : noEvict idealV sCfg (HState.init t0) forgedEvictHistory = true := by decide
set_option maxRecDepth 8000 in
example : noEvict idealV sCfg (HState.init t0) evictHistory = false := by decide

end MM.C29

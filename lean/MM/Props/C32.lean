import MM.Lemmas.C32
import MM.Gen.LockC32
import MM.Gen.CallsC32

/-!
  C32 — one live connection per peer; stale teardown never harms the live one.

  `Reachable fx s`: `s` is reached from the empty manager by ANY sequence of completed
  handshakes (simultaneous dials are simply two `connect` steps for the same peer), frames,
  keepalive timeouts, remote closes, Disconnect/DisconnectAll calls, read-loop teardowns, read loops
  that exit without a teardown (frame in flight at close), route learning and relay creation, in any
  interleaving.  `C32_at_most_one`, `C32_rejected_dup_silent` and `C32_duplicate_rejected` hold for the
  code before and after fixes/C32-skip-stale-disconnect-callback.patch (`fx` arbitrary); the
  `C32_stale_teardown_*` theorems are about the fixed code and `C32_old_stale_teardown_harms` is the
  witness against the old one.
-/
namespace MM.C32

inductive Reachable (fx : Bool) : S → Prop where
  | init : Reachable fx {}
  | step (s : S) (l : Label) : Reachable fx s → Reachable fx (step fx s l).1

theorem reachable_inv (fx : Bool) (s : S) (h : Reachable fx s) : Inv s := by
  induction h with
  | init => exact inv_init
  | step s l _ ih => exact inv_step fx s ih l

/-- **At most one live connection per peer**: two connections to the same remote identity whose
    loops were started and that have not been closed are the same connection — it is the one in
    the map. -/
theorem C32_at_most_one (fx : Bool) (s : S) (h : Reachable fx s) (i j : Nat)
    (hi : (s.conn i).started = true ∧ (s.conn i).closed = false)
    (hj : (s.conn j).started = true ∧ (s.conn j).closed = false)
    (hp : (s.conn i).peer = (s.conn j).peer) : i = j ∧ s.peers (s.conn i).peer = some i := by
  have inv := reachable_inv fx s h
  have h1 := inv.openReg i hi.1 hi.2
  have h2 := inv.openReg j hj.1 hj.2
  rw [hp] at h1
  rw [h1] at h2
  exact ⟨Option.some.inj h2, by rw [hp]; exact h1⟩

/-- **A rejected duplicate is silent**: it is never started (no read loop) and no frame of it ever
    reaches the frame callback — in every reachable state, whatever is sent on it later. -/
theorem C32_rejected_dup_silent (fx : Bool) (s : S) (h : Reachable fx s) (i : Nat)
    (hr : (s.conn i).rejected = true) : (s.conn i).started = false ∧ (s.conn i).delivered = 0 :=
  (reachable_inv fx s h).rej i hr

/-- A `connect` for a peer that already has a registered connection is rejected: the map and the
    routes/relays stay as they are, and the record created for it is marked rejected. -/
theorem C32_duplicate_rejected (fx : Bool) (s : S) (p c : Nat) (hp : s.peers p = some c) :
    (step fx s (.connect p)).2 = "rejected" ∧ (step fx s (.connect p)).1.peers = s.peers ∧
    (step fx s (.connect p)).1.entries = s.entries ∧
    ((step fx s (.connect p)).1.conn s.next).rejected = true := by
  simp [step, hp, S.setConn]

/-- Is entry `e` one of the current connection(s)?  (Its ghost tags are the registered ones.) -/
def current (s : S) (e : Entry) : Prop := s.peers e.p = some e.tp ∧ s.peers e.q = some e.tq

/-- **Stale teardown is harmless** (fixed code), call level: `handleDisconnect` for a connection
    that is not the registered one of its peer while another one is, changes nothing. -/
theorem C32_stale_teardown_noop (s : S) (c c' : Nat) (hp : s.peers (s.conn c).peer = some c')
    (hne : c' ≠ c) : handleDisconnect true s c = s := by
  simp [handleDisconnect, hp, hne]

theorem mem_callback {s : S} {p : Nat} {e : Entry} :
    e ∈ (callback s p).entries ↔ e ∈ s.entries ∧ e.p ≠ p ∧ e.q ≠ p := by
  simp [callback]

/-- `handleDisconnect` (fixed code) for ANY connection `c`: the entries of the current connections that
    are not tagged `c` stay, and so does the registration of every other connection.  (An entry of the
    current connections that involves the peer of `c` is tagged with what the map holds for that peer.) -/
theorem handleDisconnect_harmless (s : S) (c : Nat) :
    (∀ e ∈ s.entries, current s e → e.tp ≠ c → e.tq ≠ c → e ∈ (handleDisconnect true s c).entries) ∧
    (∀ p c', s.peers p = some c' → c' ≠ c → (handleDisconnect true s c).peers p = some c') := by
  -- `c` is the registered connection of its peer; another one is (stale: nothing happens); the branch of the code
  -- before the fix; none is
  fun_cases handleDisconnect true s c
  case case1 hreg =>
    refine ⟨fun e hem hcur htp htq => mem_callback.mpr ⟨hem, fun h => ?_, fun h => ?_⟩, fun p c' hpc hne => ?_⟩
    · exact htp (Option.some.inj ((h ▸ hcur.1).symm.trans hreg))
    · exact htq (Option.some.inj ((h ▸ hcur.2).symm.trans hreg))
    · rw [callback_peers, setPeer_peers, if_neg fun hp => hne (Option.some.inj ((hp ▸ hpc).symm.trans hreg))]
      exact hpc
  case case2 => exact ⟨fun e hem _ _ _ => hem, fun p c' hpc _ => hpc⟩
  case case3 h => exact absurd rfl h
  case case4 hreg =>
    refine ⟨fun e hem hcur _ _ => mem_callback.mpr ⟨hem, fun h => ?_, fun h => ?_⟩, fun p c' hpc _ => hpc⟩
    · exact nomatch (h ▸ hcur.1).symm.trans hreg
    · exact nomatch (h ▸ hcur.2).symm.trans hreg

/-- **Stale teardown is harmless** (fixed code), step level: whatever tears a connection `c` down
    (keepalive timeout, read-loop teardown), every route / relay entry that belongs to the
    CURRENT connections and is not tagged `c` is still there afterwards, and the registration of
    every other connection is untouched. -/
theorem C32_stale_teardown_harmless (s : S) (c : Nat) (l : Label)
    (hl : l = .ktimeout c ∨ l = .readerr c) :
    (∀ e ∈ s.entries, current s e → e.tp ≠ c → e.tq ≠ c → e ∈ (step true s l).1.entries) ∧
    (∀ p c', s.peers p = some c' → c' ≠ c → (step true s l).1.peers p = some c') := by
  -- both steps update the record of `c` (`entries` and `peers` stay) and then call `handleDisconnect`
  rcases hl with rfl | rfl <;> dsimp only [step] <;> split
  · exact handleDisconnect_harmless (closeConn s c) c
  · exact ⟨fun e hem _ _ _ => hem, fun p c' hpc _ => hpc⟩
  · exact handleDisconnect_harmless (s.setConn c _) c
  · exact ⟨fun e hem _ _ _ => hem, fun p c' hpc _ => hpc⟩

/-! ### Atomic-step tie (facts regenerated from internal/peer/manager.go by tools/lockshape.go)

  The LTS treats `connect` (duplicate check + map insert of registerConnection), the
  compare-and-delete of handleDisconnect and the lookup-and-delete of Disconnect as single atomic
  steps.  That is a fact about the source: each of them is ONE region under the write lock that
  contains both the read and the write of `peers`, and none of them consults the map through a
  separately (read-)locked accessor. -/

namespace LockTie
open MM.Gen.LockC32

def acq (m : String) : Option Nat := (acquisitions.find? (fun a => a.1 == m)).map (·.2)
def has (m : String) (w : Bool) : Bool := accesses.contains (m, "peers", w, "W")
def allW (m : String) : Bool := accesses.all (fun a => a.1 != m || a.2.2.2 == "W")
/-- accessors of `peers` that take the lock themselves -/
def lockedReaders : List String := ["GetPeer", "GetAllPeers", "PeerCount", "GetPeerIDs", "SendToPeer", "Broadcast"]
def noReaderCall (m : String) : Bool := calls.all (fun c => c.1 != m || !lockedReaders.contains c.2.1)

/-- registerConnection: check and insert in one write-locked region. -/
theorem C32_lock_register_atomic :
    acq "Manager.registerConnection" = some 1 ∧ has "Manager.registerConnection" false = true ∧
    has "Manager.registerConnection" true = true ∧ allW "Manager.registerConnection" = true ∧
    noReaderCall "Manager.registerConnection" = true := by decide +kernel

/-- handleDisconnect: compare and delete in one write-locked region. -/
theorem C32_lock_teardown_atomic :
    acq "Manager.handleDisconnect" = some 1 ∧ has "Manager.handleDisconnect" false = true ∧
    has "Manager.handleDisconnect" true = true ∧ allW "Manager.handleDisconnect" = true ∧
    noReaderCall "Manager.handleDisconnect" = true := by decide +kernel

/-- Disconnect / DisconnectAll: the map is read (lookup / snapshot) and emptied in ONE write-locked region — the
    region that reads it is the one that removes the entries — and neither goes through a separately locked
    accessor. -/
theorem C32_lock_disconnect_atomic :
    acq "Manager.Disconnect" = some 1 ∧ allW "Manager.Disconnect" = true ∧ has "Manager.Disconnect" true = true ∧
    has "Manager.Disconnect" false = true ∧ noReaderCall "Manager.Disconnect" = true ∧
    acq "Manager.DisconnectAll" = some 1 ∧ allW "Manager.DisconnectAll" = true ∧
    has "Manager.DisconnectAll" true = true ∧ has "Manager.DisconnectAll" false = true ∧
    noReaderCall "Manager.DisconnectAll" = true := by decide +kernel

/-- the calls of a method body that follow its last `m.mu.Unlock` -/
def afterLastUnlock (l : List String) : List String :=
  (l.reverse.takeWhile (fun c => c != "m.mu.Unlock")).reverse

/-- handleDisconnect decides "stale or not" under the lock; the model's teardown step acts on that decision at
    once. In the source nothing stands between the last Unlock and the disconnect callback — no call (such as a wait
    for the connection's frame handlers), no channel receive, no select (facts: tools/c32_calls.go). -/
theorem C32_calls_decision_then_callback :
    (afterLastUnlock MM.Gen.CallsC32.handleDisconnect).head? = some "m.cfg.OnPeerDisconnect" ∧
    MM.Gen.CallsC32.handleDisconnect.any (fun c => c == "<-chan" || c == "select") = false := by decide +kernel

end LockTie

/-! ### Non-vacuity -/

/-- Keepalive timeout of connection 0, the peer reconnects (connection 2) and its routes are
    learned again BEFORE the old read loop runs its own teardown of connection 0: with the fixed
    code the 3 routes and the relay entry of connection 2 survive. -/
example :
    let s := run true {} [.connect 1, .connect 2, .learn 1 2, .ktimeout 0, .connect 1, .learn 1 3, .relay 1 2, .readerr 0]
    routesVia s 1 = 3 ∧ relaysOf s 1 = 1 ∧ s.peers 1 = some 2 := by decide

/-- Simultaneous dials: the second connection to peer 1 is rejected, frames on it are dropped. -/
example :
    let s := run true {} [.connect 1, .connect 1, .frame 1, .frame 0]
    (s.conn 1).rejected = true ∧ (s.conn 1).delivered = 0 ∧ (s.conn 0).delivered = 1 := by decide

/-! ### Witness of the defect of the code before the fix -/

/-- Before the fix the same schedule destroyed the routes and relays of the live connection:
    the stale read-loop teardown of connection 0 still ran the disconnect callback, which removes
    by peer id. -/
theorem C32_old_stale_teardown_harms :
    let s := run false {} [.connect 1, .connect 2, .learn 1 2, .ktimeout 0, .connect 1, .learn 1 3, .relay 1 2]
    let s' := (step false s (.readerr 0)).1
    s.peers 1 = some 2 ∧ routesVia s 1 = 3 ∧ relaysOf s 1 = 1 ∧
    (∀ e ∈ s.entries, e.tp ≠ 0 ∧ e.tq ≠ 0) ∧
    s'.peers 1 = some 2 ∧ routesVia s' 1 = 0 ∧ relaysOf s' 1 = 0 := by decide

end MM.C32

import MM.Props.C14

/-
  C12 (convergence) — in a stable topology with reliable links every agent connected to the origin
  handles a fresh announcement and holds the announced routes.

  Setting: at state `s0` origin `o` announces; its sequence number `sq = counter + 1` is fresh (no
  seen cache holds the key, no frame in flight carries it — both are theorems for histories without
  third-party replays, see `C12_converges_run`); no hop limit; no ROUTE_WITHDRAW is in flight (it
  would take stored routes out again).  Then follows ANY schedule of deliveries, duplicate
  deliveries and further announcements (`stable` ops: no connect, no replay, no withdrawal, no loss,
  no expiry, no stale cleanup).  Fairness / reliability hypothesis: the schedule is long enough
  that no frame of this announcement is left in flight.

  The proof of `C12_converges` is the invariant `Conv`: the set `Marked` = {o} ∪ {agents that cached
  the key} is closed under links up to frames still in flight (`closed`).
-/
namespace MM.C12
open MM.C11

def keyOf (f : Flight) : Node × Nat := (f.adv.origin, f.adv.seq)

/-- Ops of a stable, reliable period. -/
def stable : Op → Bool
  | .deliver _ _ _ => true
  | .dup _ _ _ => true
  | .announce _ _ => true
  | .dump => true
  | _ => false

def Marked (t : Net) (o : Node) (k : Node × Nat) (x : Node) : Prop := x = o ∨ k ∈ (t.nodes x).seen

/-- `e` is a copy of route `r` of origin `o` at least as recent as announcement `sq`. -/
def CopyOf (o sq : Nat) (r : RAd) (e : Entry) : Prop :=
  e.kind = r.kind ∧ e.key = r.key ∧ e.origin = o ∧ sq ≤ e.seq

/-- `e` is a presence route for agent `key` of origin `o` at least as recent as announcement `sq`. -/
def CopyA (o sq key : Nat) (e : Entry) : Prop := e.key = key ∧ e.origin = o ∧ sq ≤ e.seq

structure FrameInv (t : Net) (o sq : Nat) (L : List RAd) (f : Flight) : Prop where
  src : Marked t o (o, sq) f.src
  seenBy : ∀ y, y ∈ f.adv.seenBy → Marked t o (o, sq) y
  dst : f.dst ∉ f.adv.seenBy
  path : ∀ y, y ∈ f.adv.path → y ∈ f.adv.seenBy
  routes : ∀ r, r ∈ L → ∃ r', r' ∈ f.adv.routes ∧ r'.kind = r.kind ∧ r'.key = r.key
  sbNodup : f.adv.seenBy.Nodup
  sbRange : ∀ y, y ∈ f.adv.seenBy → y < t.n
  pathLen : f.adv.path.length ≤ f.adv.seenBy.length

structure Conv (lk : Node → Node → Bool) (n o sq : Nat) (L : List RAd) (t : Net) : Prop where
  n_eq : t.n = n
  mh : ∀ x, t.maxHops x = 0
  links : ∀ a b, linked t a b = lk a b
  ctr : sq ≤ (t.nodes o).seq
  nowd : ∀ f, f ∈ t.flight → f.adv.wd = false
  frames : ∀ f, f ∈ t.flight → keyOf f = (o, sq) → FrameInv t o sq L f
  closed : ∀ x, Marked t o (o, sq) x → ∀ p, lk x p = true →
    Marked t o (o, sq) p ∨ ∃ f, f ∈ t.flight ∧ keyOf f = (o, sq) ∧ f.src = x ∧ f.dst = p
  stored : ∀ x, (o, sq) ∈ (t.nodes x).seen → ∀ r, r ∈ L → r.kind ≠ 3 →
    ∃ e, e ∈ (t.nodes x).tab ∧ CopyOf o sq r e
  storedA : ∀ x, (o, sq) ∈ (t.nodes x).seen → ∀ r, r ∈ L → r.kind = 3 →
    ∃ e, e ∈ (t.nodes x).agents ∧ CopyA o sq r.key e

theorem FrameInv.mono {t t' : Net} {o sq : Nat} {L : List RAd} {f : Flight} (hn : t'.n = t.n)
    (hm : ∀ x, Marked t o (o, sq) x → Marked t' o (o, sq) x) (h : FrameInv t o sq L f) :
    FrameInv t' o sq L f :=
  ⟨hm _ h.src, fun y hy => hm _ (h.seenBy y hy), h.dst, h.path, h.routes, h.sbNodup,
    fun y hy => hn ▸ h.sbRange y hy, h.pathLen⟩

theorem FrameInv.announced {t : Net} {o sq : Nat} {p : Node} {m : Adv} (ho : o < t.n) (hp : p ≠ o)
    (hsb : m.seenBy = [o]) (hpath : m.path = [o]) : FrameInv t o sq m.routes ⟨o, p, m⟩ := by
  refine ⟨Or.inl rfl, ?_, ?_, ?_, fun r hr => ⟨r, hr, rfl, rfl⟩, ?_, ?_, ?_⟩
  · exact hsb ▸ fun y hy => Or.inl (List.mem_singleton.1 hy)
  · exact hsb ▸ fun h => hp (List.mem_singleton.1 h)
  · exact hsb ▸ hpath ▸ fun y hy => hy
  · exact hsb ▸ List.pairwise_singleton _ o
  · exact hsb ▸ fun y hy => List.mem_singleton.1 hy ▸ ho
  · exact hsb ▸ hpath ▸ Nat.le_refl _

theorem FrameInv.fwd {t : Net} {o sq : Nat} {L : List RAd} {f : Flight} {p : Node}
    (h : FrameInv t o sq L f) (hwd : f.adv.wd = false) (hb : Marked t o (o, sq) f.dst)
    (hbn : f.dst < t.n) (hps : p ∉ f.adv.seenBy) (hpb : p ≠ f.dst) :
    FrameInv t o sq L ⟨f.dst, p, fwdAdv f.dst f.adv⟩ := by
  refine ⟨hb, ?_, ?_, ?_, ?_, fwdAdv_seenBy_nodup h.sbNodup h.dst, ?_, ?_⟩
  · rw [fwdAdv_seenBy]
    exact List.forall_mem_append.2 ⟨h.seenBy, List.forall_mem_singleton.2 hb⟩
  · rw [fwdAdv_seenBy, List.mem_append, List.mem_singleton]
    exact fun h' => h'.elim hps hpb
  · rw [fwdAdv_seenBy, fwdAdv_path hwd]
    exact List.forall_mem_cons.2 ⟨List.mem_append_right _ List.mem_cons_self,
      fun y hy => List.mem_append_left _ (h.path y hy)⟩
  · intro r hr
    obtain ⟨r', hr', hk⟩ := h.routes r hr
    exact ⟨{ r' with metric := inc16 r'.metric }, (fwdAdv_routes hwd).symm ▸ List.mem_map.2 ⟨r', hr', rfl⟩, hk⟩
  · rw [fwdAdv_seenBy]
    exact List.forall_mem_append.2 ⟨h.sbRange, List.forall_mem_singleton.2 hbn⟩
  · rw [fwdAdv_seenBy, fwdAdv_path hwd, List.length_cons, List.length_append]
    exact Nat.succ_le_succ h.pathLen

/-- Pigeonhole: the seen-by list of an invariant frame names distinct agents below `n ≤ 255`, its
    destination not among them, so the one-byte wire counts do not stop it there. -/
theorem FrameInv.relays {t : Net} {o sq : Nat} {L : List RAd} {f : Flight} (h : FrameInv t o sq L f)
    (hn255 : t.n ≤ 255) (hbn : f.dst < t.n) : Relays 0 f.adv := by
  have hlen : (f.dst :: f.adv.seenBy).length ≤ (List.range t.n).length :=
    (List.nodup_cons.2 ⟨h.dst, h.sbNodup⟩).length_le_of_subset (fun y hy => List.mem_range.2
      ((List.mem_cons.1 hy).elim (fun e => e ▸ hbn) (h.sbRange y)))
  rw [List.length_range, List.length_cons] at hlen
  exact ⟨fun h' => Nat.lt_irrefl 0 h'.1, Nat.le_trans hlen hn255,
    Nat.le_trans (Nat.succ_le_succ h.pathLen) (Nat.le_trans hlen hn255)⟩

/-! ### the invariant is kept by processing a frame

  `f` is handed to its destination; `fl` is what stays in the queue (`deliver`: all but one
  occurrence of `f`; `dup`: everything). -/

theorem conv_process {lk : Node → Node → Bool} {n o sq : Nat} {L : List RAd} {t t' : Net}
    (hn255 : n ≤ 255) (hirr : ∀ x, lk x x = false) (hrange : ∀ x p, lk x p = true → p < n)
    (hC : Conv lk n o sq L t) {fl : List Flight} {f : Flight} (hbn : f.dst < n) (hf : f ∈ t.flight)
    (hsub : ∀ g, g ∈ fl → g ∈ t.flight)
    (hlost : ∀ g, g ∈ t.flight → g ∈ fl ∨ g = f)
    (ht' : t' = (process { t with flight := fl } f.src f.dst f.adv).1) : Conv lk n o sq L t' := by
  have hwd : f.adv.wd = false := hC.nowd f hf
  -- what `process` does, in terms of `t'`
  have hn : t'.n = t.n := by subst ht'; rfl
  have hseen : ∀ x k, k ∈ (t'.nodes x).seen ↔ (x = f.dst ∧ k = keyOf f) ∨ k ∈ (t.nodes x).seen := by
    subst ht'; exact fun x k => mem_process_seen
  have hmono : ∀ x, Marked t o (o, sq) x → Marked t' o (o, sq) x :=
    fun x h => h.imp_right (fun h => (hseen x _).2 (Or.inr h))
  -- a newly cached key `(o, sq)`: `f` is a frame of our advertisement and `f.dst` handles it first now
  have hnewly : ∀ x, (o, sq) ∈ (t'.nodes x).seen → (o, sq) ∈ (t.nodes x).seen ∨
      (x = f.dst ∧ keyOf f = (o, sq) ∧ (o, sq) ∉ (t.nodes f.dst).seen) := by
    intro x hx
    by_cases hold : (o, sq) ∈ (t.nodes x).seen
    · exact Or.inl hold
    · rcases (hseen x _).1 hx with ⟨rfl, hk⟩ | h
      · exact Or.inr ⟨rfl, hk.symm, hold⟩
      · exact absurd h hold
  have hflight : ∀ g, g ∈ t'.flight → g ∈ fl ∨ ∃ p, g = ⟨f.dst, p, fwdAdv f.dst f.adv⟩ ∧
      p ∉ f.adv.seenBy ∧ p ≠ f.dst ∧ f.dst ∉ f.adv.seenBy := by
    subst ht'
    exact fun g hg => (mem_process_flight hg).imp_right (fun ⟨p, h1, _, h3, h4, h5, _⟩ => ⟨p, h1, h3, h4, h5⟩)
  -- first handling of our advertisement: `f.dst` stores every route and sends a copy to every
  -- neighbour that is neither the sender nor listed in seen-by
  have hfirst : keyOf f = (o, sq) → (o, sq) ∉ (t.nodes f.dst).seen →
      (∀ p, lk f.dst p = true → p ≠ f.src → p ∉ f.adv.seenBy →
        (⟨f.dst, p, fwdAdv f.dst f.adv⟩ : Flight) ∈ t'.flight) ∧
      (∀ r, r ∈ L → r.kind ≠ 3 → ∃ e, e ∈ (t'.nodes f.dst).tab ∧ CopyOf o sq r e) ∧
      (∀ r, r ∈ L → r.kind = 3 → ∃ e, e ∈ (t'.nodes f.dst).agents ∧ CopyA o sq r.key e) := by
    intro hkey hnew
    have hFI := hC.frames f hf hkey
    obtain ⟨rfl, rfl⟩ := Prod.mk.inj hkey
    have hbp : f.dst ∉ f.adv.path := fun h => hFI.dst (hFI.path _ h)
    have hacc : Accepts 0 f.dst f.adv (t.nodes f.dst) := ⟨hnew, hFI.dst, fun h => Nat.lt_irrefl 0 h.1⟩
    have hrel : Relays 0 f.adv := hFI.relays (hC.n_eq ▸ hn255) (hC.n_eq ▸ hbn)
    obtain ⟨hnode, hsent⟩ := process_accepts (s := { t with flight := fl }) (a := f.src) hwd
      ((hC.mh f.dst).symm ▸ hacc) ((hC.mh f.dst).symm ▸ hrel)
    rw [← ht'] at hnode hsent
    refine ⟨?_, ?_, ?_⟩
    · intro p hp hpa hps
      rw [hsent]
      refine List.mem_append_right _ (List.mem_map.2 ⟨(p, fwdAdv f.dst f.adv), mem_fwdOuts.2 ⟨rfl, ?_, hpa, hps, ?_⟩, rfl⟩)
      · exact mem_peersOf.2 ⟨hC.n_eq ▸ hrange _ _ hp, (hC.links _ _).trans hp⟩
      · intro h; rw [h, hirr] at hp; cases hp
    · intro r hr hk
      obtain ⟨r', hr', hk1, hk2⟩ := hFI.routes r hr
      obtain ⟨e, he, h1, h2, h3, h4⟩ := foldl_storeRoute_stores (frm := f.src) (clock := t.clock) hbp
        f.adv.routes (mark f.adv (t.nodes f.dst)) hr' (hk1 ▸ hk)
      exact ⟨e, hnode ▸ he, h1.trans hk1, h2.trans hk2, h3, h4⟩
    · intro r hr hk
      obtain ⟨r', hr', hk1, hk2⟩ := hFI.routes r hr
      obtain ⟨e, he, h2, h3, h4⟩ := foldl_storeRoute_storesA (frm := f.src) (clock := t.clock) hbp
        f.adv.routes (mark f.adv (t.nodes f.dst)) hr' (hk1.trans hk)
      exact ⟨e, hnode ▸ he, h2.trans hk2, h3, h4⟩
  exact {
    n_eq := hn.trans hC.n_eq
    mh := by subst ht'; exact hC.mh
    links := by subst ht'; exact hC.links
    ctr := by subst ht'; rw [process_seq]; exact hC.ctr
    nowd := by
      intro g hg
      rcases hflight g hg with h | ⟨p, rfl, _⟩
      · exact hC.nowd g (hsub g h)
      · exact (fwdAdv_wd _ _).trans hwd
    frames := by
      intro g hg hgk
      rcases hflight g hg with h | ⟨p, rfl, hps, hpb, hsb⟩
      · exact (hC.frames g (hsub g h) hgk).mono hn hmono
      · -- a copy of `f` sent on by `f.dst`: `f` is a frame of our advertisement
        have hkey : keyOf f = (o, sq) := by
          rw [← hgk]; simp only [keyOf, fwdAdv_origin, fwdAdv_seq]
        exact ((hC.frames f hf hkey).mono hn hmono).fwd hwd (Or.inr ((hseen _ _).2 (Or.inl ⟨rfl, hkey.symm⟩)))
          ((hn.trans hC.n_eq).symm ▸ hbn) hps hpb
    closed := by
      intro x hx p hp
      rcases hx.elim (fun h => Or.inl (Or.inl h)) (fun h => (hnewly x h).imp_left Or.inr) with
        hx0 | ⟨rfl, hkey, hnew⟩
      · rcases hC.closed x hx0 p hp with h | ⟨g, hg, hgk, hgs, hgd⟩
        · exact Or.inl (hmono p h)
        · rcases hlost g hg with h | rfl
          · exact Or.inr ⟨g, by subst ht'; exact List.mem_append_left _ h, hgk, hgs, hgd⟩
          · -- the frame just handed over: its destination has cached the key now
            exact Or.inl (Or.inr ((hseen p _).2 (Or.inl ⟨hgd.symm, hgk.symm⟩)))
      · have hFI := hC.frames f hf hkey
        by_cases hpa : p = f.src
        · exact Or.inl (hmono p (hpa ▸ hFI.src))
        · by_cases hps : p ∈ f.adv.seenBy
          · exact Or.inl (hmono p (hFI.seenBy p hps))
          · refine Or.inr ⟨_, (hfirst hkey hnew).1 p hp hpa hps, ?_, rfl, rfl⟩
            simp only [keyOf, fwdAdv_origin, fwdAdv_seq]
            exact hkey
    stored := by
      intro x hx r hr hk
      rcases hnewly x hx with h | ⟨rfl, hkey, hnew⟩
      · subst ht'; exact process_keeps_tab hwd (hC.stored x h r hr hk)
      · exact (hfirst hkey hnew).2.1 r hr hk
    storedA := by
      intro x hx r hr hk
      rcases hnewly x hx with h | ⟨rfl, hkey, hnew⟩
      · subst ht'; exact process_keeps_agents (hC.storedA x h r hr hk)
      · exact (hfirst hkey hnew).2.2 r hr hk }

/-! ### the invariant along a stable schedule -/

theorem conv_step {lk : Node → Node → Bool} {n o sq : Nat} {L : List RAd} {s : Net} {op : Op}
    (hn255 : n ≤ 255) (hirr : ∀ x, lk x x = false) (hrange : ∀ x p, lk x p = true → p < n)
    (hC : Conv lk n o sq L s) (hst : stable op = true) : Conv lk n o sq L (step s op) := by
  -- the other clauses read `tick s` through its fields, which reduce; `FrameInv (tick s) …` is another type
  have hT : Conv lk n o sq L (tick s) :=
    { hC with frames := fun f hf hk => FrameInv.mono (t := s) rfl (fun _ h => h) (hC.frames f hf hk) }
  have hand : ∀ a b i, op = .deliver a b i ∨ op = .dup a b i → Conv lk n o sq L (step s op) := by
    intro a b i hop
    rcases step_hand s a b i op hop with ⟨_, h⟩ | ⟨pos, f, fl, hp, hc, _, hsub, hlost, h⟩
    · exact h ▸ hT
    · obtain ⟨hget, rfl, rfl⟩ := pickFlight_spec hp
      exact conv_process hn255 hirr hrange hT (hC.n_eq ▸ hc.2.1) (List.mem_of_getElem? hget) hsub hlost h
  cases op with
  | deliver a b i => exact hand a b i (Or.inl rfl)
  | dup a b i => exact hand a b i (Or.inr rfl)
  | dump => exact hT
  | announce c hint =>
    -- only `c`'s counter moves
    have hmk : ∀ x, Marked (step s (.announce c hint)) o (o, sq) x ↔ Marked s o (o, sq) x := by
      intro x; unfold Marked; rw [announce_nodes]
    -- the new frames carry numbers above `c`'s counter, hence another key
    have hnew : ∀ g, g ∈ (step s (.announce c hint)).flight →
        g ∈ s.flight ∨ (g.adv.wd = false ∧ keyOf g ≠ (o, sq)) := by
      intro g hg
      refine (mem_announce_flight.1 hg).imp_right (fun ⟨_, _, _, hadv⟩ => ?_)
      have h := mem_announceAdvs hadv
      refine ⟨h.wd, fun hk => ?_⟩
      obtain ⟨hko, hks⟩ := Prod.mk.inj hk
      have h1 := h.seq_gt
      rw [← hko.symm.trans h.origin, hks] at h1
      exact Nat.lt_irrefl _ (Nat.lt_of_lt_of_le h1 hC.ctr)
    exact {
      n_eq := (step_n _ _).trans hC.n_eq
      mh := fun x => by rw [step_maxHops]; exact hC.mh x
      links := fun a b => (linked_step_eq (op := .announce c hint) nofun nofun a b).trans (hC.links a b)
      ctr := seq_step_mono _ hC.ctr
      nowd := fun g hg => (hnew g hg).elim (hC.nowd g) (fun h => h.1)
      frames := by
        intro g hg hgk
        rcases hnew g hg with h | h
        · exact (hC.frames g h hgk).mono (step_n _ _) (fun x => (hmk x).2)
        · exact absurd hgk h.2
      closed := by
        intro x hx p hp
        rcases hC.closed x ((hmk x).1 hx) p hp with h | ⟨g, hg, hgk, hgs, hgd⟩
        · exact Or.inl ((hmk p).2 h)
        · exact Or.inr ⟨g, mem_announce_flight.2 (Or.inl hg), hgk, hgs, hgd⟩
      stored := by
        intro x hx r hr hk
        rw [announce_nodes] at hx ⊢
        exact hC.stored x hx r hr hk
      storedA := by
        intro x hx r hr hk
        rw [announce_nodes] at hx ⊢
        exact hC.storedA x hx r hr hk }
  | _ => cases hst

theorem conv_announce (s0 : Net) (o : Node) (hint : List (List RAd)) (m : Adv)
    (hm : m ∈ announceAdvs o (s0.nodes o) hint) (ho : o < s0.n) (hmh : ∀ x, s0.maxHops x = 0)
    (hirr : ∀ x, linked s0 x x = false)
    (hrange : ∀ x p, linked s0 x p = true → p < s0.n)
    (hfresh : ∀ x sq, (s0.nodes o).seq < sq → (o, sq) ∉ (s0.nodes x).seen)
    (hnoold : ∀ f, f ∈ s0.flight → f.adv.origin = o → f.adv.seq ≤ (s0.nodes o).seq)
    (hnowd : ∀ f, f ∈ s0.flight → f.adv.wd = false) :
    Conv (linked s0) s0.n o m.seq m.routes (step s0 (.announce o hint)) := by
  have hA := mem_announceAdvs hm
  -- nobody has cached the new key yet: only `o` is marked
  have hunseen : ∀ x, (o, m.seq) ∉ ((step s0 (.announce o hint)).nodes x).seen := by
    intro x
    rw [announce_nodes]
    exact hfresh x _ hA.seq_gt
  exact {
    n_eq := step_n _ _
    mh := fun x => by rw [step_maxHops]; exact hmh x
    links := linked_step_eq nofun nofun
    ctr := by
      rw [announce_nodes, if_pos ⟨rfl, ho⟩]
      exact hA.seq_le
    nowd := by
      intro g hg
      rcases mem_announce_flight.1 hg with h | ⟨_, _, _, hadv⟩
      · exact hnowd g h
      · exact (mem_announceAdvs hadv).wd
    frames := by
      intro f hf hfk
      obtain ⟨hko, hks⟩ := Prod.mk.inj hfk
      rcases mem_announce_flight.1 hf with h | ⟨_, hsrc, hdst, hadv⟩
      · -- the frames of `o` already in flight carry older numbers
        exact absurd (hnoold f h hko) (Nat.not_le.2 (hks ▸ hA.seq_gt))
      · obtain ⟨src, p, adv⟩ := f
        obtain rfl : src = o := hsrc
        obtain rfl : adv = m := announceAdvs_seq_inj hadv hm hks
        refine FrameInv.announced ((step_n _ _).symm ▸ ho) (fun h => ?_) hA.seenBy hA.path
        -- no agent is its own peer
        have := (mem_peersOf.1 hdst).2
        rw [h, hirr] at this; cases this
    closed := by
      intro x hx p hp
      obtain rfl : x = o := hx.elim id (fun h => absurd h (hunseen x))
      refine Or.inr ⟨⟨x, p, m⟩, ?_, by simp only [keyOf, hA.origin], rfl, rfl⟩
      exact mem_announce_flight.2 (Or.inr ⟨ho, rfl, mem_peersOf.2 ⟨hrange x p hp, hp⟩, hm⟩)
    stored := fun x hx => absurd hx (hunseen x)
    storedA := fun x hx => absurd hx (hunseen x) }

/-- Agents connected to `o` by a path of links. -/
inductive Reach (lk : Node → Node → Bool) (o : Node) : Node → Prop where
  | refl : Reach lk o o
  | step {x p : Node} : Reach lk o x → lk x p = true → Reach lk o p

theorem conv_quiescent {lk : Node → Node → Bool} {n o sq : Nat} {L : List RAd} {t : Net}
    (hC : Conv lk n o sq L t) (hq : ∀ f, f ∈ t.flight → keyOf f ≠ (o, sq)) :
    ∀ x, Reach lk o x → Marked t o (o, sq) x := by
  intro x hx
  induction hx with
  | refl => exact Or.inl rfl
  | step _ hp ih =>
    rcases hC.closed _ ih _ hp with h | ⟨f, hf, hk, _, _⟩
    · exact h
    · exact absurd hk (hq f hf)

/-- C12 (convergence). Origin `o` announces (one advertisement `m` per group of at most 255 routes,
    each with a fresh sequence number). Under any schedule of deliveries / duplicate deliveries /
    further announcements on the stable topology, once no frame of advertisement `m` is left in
    flight (reliable links), every agent connected to `o` has handled it and holds every CIDR /
    domain / forward route and every presence route it carries, with origin `o` and a sequence
    number ≥ `m.seq`. -/
theorem C12_converges (s0 : Net) (o : Node) (hint : List (List RAd)) (ops : List Op) (m : Adv)
    (hm : m ∈ announceAdvs o (s0.nodes o) hint)
    (ho : o < s0.n) (hn255 : s0.n ≤ 255) (hmh : ∀ x, s0.maxHops x = 0)
    (hirr : ∀ x, linked s0 x x = false) (hrange : ∀ x p, linked s0 x p = true → p < s0.n)
    (hfresh : ∀ x sq, (s0.nodes o).seq < sq → (o, sq) ∉ (s0.nodes x).seen)
    (hnoold : ∀ f, f ∈ s0.flight → f.adv.origin = o → f.adv.seq ≤ (s0.nodes o).seq)
    (hnowd : ∀ f, f ∈ s0.flight → f.adv.wd = false)
    (hst : ∀ op, op ∈ ops → stable op = true)
    (hquiet : ∀ f, f ∈ (run (step s0 (.announce o hint)) ops).flight → keyOf f ≠ (o, m.seq)) :
    ∀ x, Reach (linked s0) o x → x ≠ o →
      (o, m.seq) ∈ ((run (step s0 (.announce o hint)) ops).nodes x).seen ∧
      (∀ r, r ∈ m.routes → r.kind ≠ 3 →
        ∃ e, e ∈ ((run (step s0 (.announce o hint)) ops).nodes x).tab ∧ CopyOf o m.seq r e) ∧
      (∀ r, r ∈ m.routes → r.kind = 3 →
        ∃ e, e ∈ ((run (step s0 (.announce o hint)) ops).nodes x).agents ∧ CopyA o m.seq r.key e) := by
  intro x hx hxo
  have hC := run_induction_mem (P := Conv _ _ _ _ _) _ ops
    (conv_announce s0 o hint m hm ho hmh hirr hrange hfresh hnoold hnowd)
    (fun _ op hop h => conv_step hn255 hirr hrange h (hst op hop))
  rcases conv_quiescent hC hquiet x hx with hmk | hmk
  · exact absurd hmk hxo
  · exact ⟨hmk, hC.stored x hmk, hC.storedA x hmk⟩

/-- Every announced route (the local routes and the presence route) travels in one of the
    advertisements, numbered above `o`'s counter; no frame with its key is left in `t` once no
    frame of `o` in `t` carries a number above that counter. -/
theorem announced_quiet {s0 t : Net} {o : Node} {hint : List (List RAd)}
    (hquiet : ∀ f, f ∈ t.flight → f.adv.origin = o → f.adv.seq ≤ (s0.nodes o).seq)
    {r : RAd} (hr : r ∈ announcedRoutes o (s0.nodes o)) :
    ∃ m, m ∈ announceAdvs o (s0.nodes o) hint ∧ r ∈ m.routes ∧ (s0.nodes o).seq < m.seq ∧
      ∀ f, f ∈ t.flight → keyOf f ≠ (o, m.seq) := by
  obtain ⟨m, hm, hrm⟩ := announce_covers (hint := hint) hr
  have hgt := (mem_announceAdvs hm).seq_gt
  refine ⟨m, hm, hrm, hgt, fun f hf hkf => ?_⟩
  obtain ⟨hko, hks⟩ := Prod.mk.inj hkf
  exact Nat.not_le.2 hgt (hks ▸ hquiet f hf hko)

/-- Every local route of `o` travels in one of the advertisements, so when all of them have
    quiesced every connected agent holds every CIDR / domain / forward route `o` announces. -/
theorem C12_converges_all (s0 : Net) (o : Node) (hint : List (List RAd)) (ops : List Op)
    (ho : o < s0.n) (hn255 : s0.n ≤ 255) (hmh : ∀ x, s0.maxHops x = 0)
    (hirr : ∀ x, linked s0 x x = false) (hrange : ∀ x p, linked s0 x p = true → p < s0.n)
    (hfresh : ∀ x sq, (s0.nodes o).seq < sq → (o, sq) ∉ (s0.nodes x).seen)
    (hnoold : ∀ f, f ∈ s0.flight → f.adv.origin = o → f.adv.seq ≤ (s0.nodes o).seq)
    (hnowd : ∀ f, f ∈ s0.flight → f.adv.wd = false)
    (hst : ∀ op, op ∈ ops → stable op = true)
    (hquiet : ∀ f, f ∈ (run (step s0 (.announce o hint)) ops).flight →
      f.adv.origin = o → f.adv.seq ≤ (s0.nodes o).seq) :
    ∀ x, Reach (linked s0) o x → x ≠ o → ∀ r, r ∈ (s0.nodes o).locals → r.kind ≠ 3 →
      ∃ e, e ∈ ((run (step s0 (.announce o hint)) ops).nodes x).tab ∧
        e.kind = r.kind ∧ e.key = r.key ∧ e.origin = o ∧ (s0.nodes o).seq < e.seq := by
  intro x hx hxo r hr hk
  obtain ⟨m, hm, hrm, hgt, hq⟩ := announced_quiet (hint := hint) hquiet (List.mem_append_left _ hr)
  obtain ⟨e, he, h1, h2, h3, h4⟩ := (C12_converges s0 o hint ops m hm ho hn255 hmh hirr hrange hfresh hnoold
    hnowd hst hq x hx hxo).2.1 r hrm hk
  exact ⟨e, he, h1, h2, h3, Nat.lt_of_lt_of_le hgt h4⟩

/-- The presence route: when all advertisements of the announcement have quiesced every connected
    agent holds a presence route for `o` (so `o` is reachable by agent id from everywhere). -/
theorem C12_converges_presence (s0 : Net) (o : Node) (hint : List (List RAd)) (ops : List Op)
    (ho : o < s0.n) (hn255 : s0.n ≤ 255) (hmh : ∀ x, s0.maxHops x = 0)
    (hirr : ∀ x, linked s0 x x = false) (hrange : ∀ x p, linked s0 x p = true → p < s0.n)
    (hfresh : ∀ x sq, (s0.nodes o).seq < sq → (o, sq) ∉ (s0.nodes x).seen)
    (hnoold : ∀ f, f ∈ s0.flight → f.adv.origin = o → f.adv.seq ≤ (s0.nodes o).seq)
    (hnowd : ∀ f, f ∈ s0.flight → f.adv.wd = false)
    (hst : ∀ op, op ∈ ops → stable op = true)
    (hquiet : ∀ f, f ∈ (run (step s0 (.announce o hint)) ops).flight →
      f.adv.origin = o → f.adv.seq ≤ (s0.nodes o).seq) :
    ∀ x, Reach (linked s0) o x → x ≠ o →
      ∃ e, e ∈ ((run (step s0 (.announce o hint)) ops).nodes x).agents ∧
        e.key = o ∧ e.origin = o ∧ (s0.nodes o).seq < e.seq := by
  intro x hx hxo
  obtain ⟨m, hm, hrm, hgt, hq⟩ := announced_quiet (hint := hint) hquiet
    (r := { kind := 3, key := o, metric := 0 }) (List.mem_append_right _ List.mem_cons_self)
  obtain ⟨e, he, h1, h2, h4⟩ := (C12_converges s0 o hint ops m hm ho hn255 hmh hirr hrange hfresh hnoold
    hnowd hst hq x hx hxo).2.2 _ hrm rfl
  exact ⟨e, he, h1, h2, Nat.lt_of_lt_of_le hgt h4⟩

/-! ### the hypotheses hold after every history without third-party replays -/

theorem linkWF_step {s : Net} {op : Op} (h : ∀ a b, linked s a b = true → a ≠ b ∧ b < s.n) :
    ∀ a b, linked (step s op) a b = true → a ≠ b ∧ b < (step s op).n := by
  intro a b hab
  rw [step_n]
  rcases linked_step_inv hab with h' | ⟨c, d, _, hc, hcd⟩
  · exact h a b h'
  · rcases hcd with ⟨rfl, rfl⟩ | ⟨rfl, rfl⟩
    · exact ⟨hc.2.2, hc.2.1⟩
    · exact ⟨fun e => hc.2.2 e.symm, hc.1⟩

theorem linkWF_run (n mh : Nat) (L : Node → List RAd) (ops : List Op) :
    ∀ a b, linked (run (init n mh L) ops) a b = true → a ≠ b ∧ b < (run (init n mh L) ops).n :=
  run_induction _ ops (fun _ _ h => absurd h not_linked_initH) (fun _ _ => linkWF_step)

theorem nowd_run (s : Net) (ops : List Op) (h0 : ∀ f, f ∈ s.flight → f.adv.wd = false)
    (hnw : ∀ op, op ∈ ops → ∀ a h, op ≠ .withdraw a h) :
    ∀ f, f ∈ (run s ops).flight → f.adv.wd = false := by
  refine run_induction_mem s ops h0 ?_
  intro s op hop hI f hf
  cases flight_step hf with
  | old h => exact hI f h
  | ann _ _ h => exact h.wd
  | wdr _ hop' _ _ _ => exact absurd hop' (hnw op hop _ _)
  | fwd a m hm _ _ _ _ hadv => rw [hadv, fwdAdv_wd]; exact hI _ hm
  | rep _ _ _ _ hadv => exact (mem_replayAdvs hadv).wd

/-- `C12_converges_all` for an announcement made after any history without third-party replays,
    without withdrawals and without hop limit: freshness of the sequence numbers is then a theorem
    (C14), not a hypothesis. -/
theorem C12_converges_run (n : Nat) (L : Node → List RAd) (pre ops : List Op) (o : Node)
    (hint : List (List RAd))
    (ho : o < n) (hn255 : n ≤ 255) (hb : benignRun (init n 0 L) pre = true)
    (hnw : ∀ op, op ∈ pre → ∀ a h, op ≠ .withdraw a h)
    (hst : ∀ op, op ∈ ops → stable op = true)
    (hquiet : ∀ f, f ∈ (run (step (run (init n 0 L) pre) (.announce o hint)) ops).flight →
      f.adv.origin = o → f.adv.seq ≤ ((run (init n 0 L) pre).nodes o).seq) :
    ∀ x, Reach (linked (run (init n 0 L) pre)) o x → x ≠ o → ∀ r, r ∈ L o → r.kind ≠ 3 →
      ∃ e, e ∈ ((run (step (run (init n 0 L) pre) (.announce o hint)) ops).nodes x).tab ∧
        e.kind = r.kind ∧ e.key = r.key ∧ e.origin = o ∧ ((run (init n 0 L) pre).nodes o).seq < e.seq := by
  have hwf := linkWF_run n 0 L pre
  have hn : (run (init n 0 L) pre).n = n := run_n _ _
  have hloc : ((run (init n 0 L) pre).nodes o).locals = L o := by
    rw [locals_run]; exact initNode_locals o (L o)
  intro x hx hxo r hr hk
  exact C12_converges_all (run (init n 0 L) pre) o hint ops (hn.symm ▸ ho) (hn.symm ▸ hn255)
    (fun x => by rw [run_maxHops]; rfl)
    (fun x => Bool.eq_false_iff.2 (fun h => (hwf x x h).1 rfl))
    (fun x p h => (hwf x p h).2)
    (MM.C14.C14_partial n 0 L pre hb o).1
    (fun f hf hfo => hfo ▸ (MM.C14.seqInv_run n 0 L pre hb).flight f hf)
    (nowd_run _ pre (fun f hf => nomatch hf) hnw)
    hst hquiet x hx hxo r (hloc ▸ hr) hk

/-- Non-vacuity: ring 0-1-2-3-0 brought up with local table exchange, agent 0 (two routes)
    announces, the frames are delivered in an arbitrary order with a duplicate; the final state is
    quiescent for that announcement and every other agent holds both routes. -/
def ringLocals : Node → List RAd := fun x => if x = 0 then [⟨0, 1, 0⟩, ⟨1, 2, 4⟩] else []

def ringPre : List Op := [
  .connect 0 1, .replay 0 1 [], .connect 1 2, .connect 2 3, .connect 3 0, .replay 0 3 [],
  .deliver 0 1 0, .deliver 0 3 0]

def ringSched : List Op := [
  .deliver 0 3 0, .dup 0 1 0, .deliver 3 2 0, .deliver 0 1 0, .deliver 1 2 0, .deliver 2 1 0,
  .deliver 2 3 0, .deliver 1 2 0, .deliver 3 2 0, .deliver 2 1 0, .deliver 2 3 0]

example : benignRun (init 4 0 ringLocals) ringPre = true := by decide
example : ∀ op, op ∈ ringPre → ∀ a h, op ≠ .withdraw a h := by
  intro op hop a h heq; subst heq; simp [ringPre] at hop
example : ∀ op, op ∈ ringSched → stable op = true := by decide
example : (run (step (run (init 4 0 ringLocals) ringPre) (.announce 0 [])) ringSched).flight.all
    (fun f => f.adv.origin != 0 || decide (f.adv.seq ≤ ((run (init 4 0 ringLocals) ringPre).nodes 0).seq)) = true := by
  decide +kernel
example : (((run (step (run (init 4 0 ringLocals) ringPre) (.announce 0 [])) ringSched).nodes 2).tab.map
    (fun e => (e.kind, e.key, e.origin, e.seq))) = [(0, 1, 0, 5), (1, 2, 0, 5)] := by decide +kernel

end MM.C12

namespace MM.C14
open MM.C11 MM.C12

/-- C14, "reaches each connected agent and renews its copy": after any history without
    third-party replays and withdrawals (no hop limit, at most 255 agents), when origin `o`
    announces and the frames of that announcement have all been delivered — under any order, any
    duplication, any interleaving with other announcements — every agent connected to `o` holds, for
    every route `o` advertises, a copy whose sequence number was issued by THIS announcement or a
    later one (it is above `o`'s counter before the announcement). -/
theorem C14_reaches_all (n : Nat) (L : Node → List RAd) (pre ops : List Op) (o : Node)
    (hint : List (List RAd))
    (ho : o < n) (hn255 : n ≤ 255) (hb : benignRun (init n 0 L) pre = true)
    (hnw : ∀ op, op ∈ pre → ∀ a h, op ≠ .withdraw a h)
    (hst : ∀ op, op ∈ ops → stable op = true)
    (hquiet : ∀ f, f ∈ (run (step (run (init n 0 L) pre) (.announce o hint)) ops).flight →
      f.adv.origin = o → f.adv.seq ≤ ((run (init n 0 L) pre).nodes o).seq) :
    ∀ x, Reach (linked (run (init n 0 L) pre)) o x → x ≠ o → ∀ r, r ∈ L o → r.kind ≠ 3 →
      ∃ e, e ∈ ((run (step (run (init n 0 L) pre) (.announce o hint)) ops).nodes x).tab ∧
        e.kind = r.kind ∧ e.key = r.key ∧ e.origin = o ∧ ((run (init n 0 L) pre).nodes o).seq < e.seq :=
  C12_converges_run n L pre ops o hint ho hn255 hb hnw hst hquiet

end MM.C14

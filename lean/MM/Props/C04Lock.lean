/-
  C04 — atomic-step tie for "the endpoint's session key is only read and replaced under its lock"
  (facts regenerated by tools/lockshape.go into MM/Gen/LockC04{u,i}.lean on every run).
  The model treats an endpoint's mode (sealWith k / plaintext / refuse) as fixed per step: Encrypt and
  Decrypt read the key under the association/session mutex, and the only writers (SetSessionKey, Close)
  hold it exclusively, so a frame is sealed under exactly the key that was installed at that moment.
  Only what the argument needs is stated, so harmless refactors keep passing.
-/
import MM.Gen.LockC04u
import MM.Gen.LockC04i

namespace MM.C04

/-- every write under the write lock, every read under a (read or write) lock -/
def keyGuarded (accesses : List (String × String × Bool × String)) : Bool :=
  accesses.all fun a =>
    let (_, field, isWrite, lock) := a
    field != "SessionKey" || (if isWrite then lock == "W" else lock == "W" || lock == "R")

/-- The sweep is not vacuous: the table lists an access by `Encrypt` and a write by `SetSessionKey`
    (likewise for ICMP below). -/
theorem C04_tie_udp_key_guarded :
    keyGuarded Gen.LockC04u.accesses = true ∧
    (Gen.LockC04u.accesses.any fun a => a.1 == "Association.Encrypt") = true ∧
    (Gen.LockC04u.accesses.any fun a => a.1 == "Association.SetSessionKey" && a.2.2.1) = true := by decide +kernel

theorem C04_tie_icmp_key_guarded :
    keyGuarded Gen.LockC04i.accesses = true ∧
    (Gen.LockC04i.accesses.any fun a => a.1 == "Session.Encrypt") = true ∧
    (Gen.LockC04i.accesses.any fun a => a.1 == "Session.SetSessionKey" && a.2.2.1) = true := by decide +kernel

end MM.C04

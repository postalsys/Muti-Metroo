/-
  C39 — Control responses reach only the agent that asked.

  "A management or status response is delivered only to the agent that issued the matching request,
   and it carries the answer of the agent that request targeted. This holds when several agents send
   requests through the same transit at the same time, and when an agent both originates and relays
   requests."

  Model: MM/Model/C39.lean — `pendingControl` / `forwardedControl` keyed by the bare request id,
  per-agent sequential ids, and a FIFO network of such agents.

  The pinned code does not have the property (`C39_refuted`: two requesters whose first request both
  carry id 1 through one transit; `C39_refuted_swallow`: a transit with a pending request of its own
  swallows a response it should have relayed).  `C39_partial`: on every history in which request ids
  live at an agent are distinct, the agent behaves exactly like the ideal agent that remembers for
  every live request who asked.  The defect is design-level (request ids would have to be rewritten
  per hop or keyed by (source, id) with per-hop disambiguation of responses) → known finding.
-/
import MM.Lemmas.C39
import MM.Gen.LockC39

namespace MM.C39

/-! ### atomic-step tie (tools/lockshape.go over internal/agent/agent.go): every access to
    `pendingControl`, `forwardedControl` and `nextControlID` in the three control functions is made under
    `controlMu`, and `handleControlResponse` looks up and deletes in ONE critical section — the model's
    `issue`/`onReq`/`onResp` are atomic functions. -/
theorem C39_lock_control_maps :
    (Gen.LockC39.accesses.all (fun a => a.2.2.2 == "W")) = true ∧
    Gen.LockC39.acquisitions.lookup "Agent.handleControlResponse" = some 1 ∧
    (Gen.LockC39.accesses.any (fun a => a.1 == "Agent.handleControlRequest" && a.2.1 == "forwardedControl" && a.2.2.1)) = true ∧
    (Gen.LockC39.accesses.any (fun a => a.1 == "Agent.SendControlRequestWithData" && a.2.1 == "pendingControl" && a.2.2.1)) = true := by
  decide +kernel

/-! ### the ideal agent: remembers the origin of every live request -/

/-- `none` = issued locally, `some p` = relayed for peer `p`. -/
abbrev Origin := Option Nat

inductive Op
  | issue (target : Nat)
  | req (src id target : Nat) (path : List Nat)
  | resp (id : Nat) (ok : Bool) (tag : Nat)
  | cancel (id : Nat)
  | issueFail (target : Nat)
  | sleep
  deriving Repr

def Ag.apply (a : Ag) : Op → Ag × List Out
  | .issue t => a.issue t
  | .req s i t p => a.onReq s i t p
  | .resp i ok tag => a.onResp i ok tag
  | .cancel i => a.cancel i
  | .issueFail t => a.issueFail t
  | .sleep => (a.sleep, [])

/-- Ideal bookkeeping: one table of live requests with their origin. -/
def idealApply (a : Ag) (g : AMap Origin) : Op → AMap Origin × List Out
  | .issue t =>
    if !a.peers.contains t then (g, [.sendErr])
    else (g.set (a.next + 1) none, [.send t (.req (a.next + 1) t [])])
  | .req s i t p =>
    let (_, outs) := a.onReq s i t p
    -- a request is recorded iff it was forwarded
    match outs with
    | [.send _ (.req _ _ _)] => (g.set i (some s), outs)
    | _ => (g, outs)
  | .resp i ok tag =>
    match g.get i with
    | some none => (g.del i, [.deliver i ok tag])
    | some (some p) => (g.del i, [.send p (.resp i ok tag)])
    | none => (g.del i, [])
  | .cancel i =>
    -- the local caller is gone: nobody is to be served for this id any more
    match g.get i with
    | some none => (g.del i, [.cancelled i])
    | _ => (g, [])
  | .issueFail _ => (g, [.sendErr])     -- nothing went out: nobody is to be served
  | .sleep => (g, [])                   -- requests in flight stay in flight

/-- The real tables represent exactly the ideal table. -/
structure Sync (a : Ag) (g : AMap Origin) : Prop where
  fwd : ∀ i, a.fwd.get i = (match g.get i with | some (some p) => some p | _ => none)
  pend : ∀ i, (a.pending.get i).isSome = (g.get i == some none)

/-- Distinct live ids: a request (incoming or local) never uses an id that is live at this agent. -/
def fresh (a : Ag) (g : AMap Origin) : Op → Prop
  | .issue _ => g.get (a.next + 1) = none
  | .req _ i _ _ => g.get i = none
  | .resp _ _ _ => True
  | .cancel _ => True
  | .issueFail _ => g.get (a.next + 1) = none
  | .sleep => True

/-- Every operation touches the tables at ONE key `i`: elsewhere `Sync` is inherited. -/
theorem Sync.update {a a' : Ag} {g g' : AMap Origin} (hs : Sync a g) (i : Nat)
    (hf : ∀ j, j ≠ i → a'.fwd.get j = a.fwd.get j) (hp : ∀ j, j ≠ i → a'.pending.get j = a.pending.get j)
    (hg : ∀ j, j ≠ i → g'.get j = g.get j)
    (hfi : a'.fwd.get i = (match g'.get i with | some (some p) => some p | _ => none))
    (hpi : (a'.pending.get i).isSome = (g'.get i == some none)) : Sync a' g' := by
  constructor <;> intro j <;> by_cases hj : j = i
  · exact hj ▸ hfi
  · rw [hf j hj, hg j hj]; exact hs.fwd j
  · exact hj ▸ hpi
  · rw [hp j hj, hg j hj]; exact hs.pend j

theorem sync_step {a : Ag} {g : AMap Origin} (hs : Sync a g) (o : Op) (hf : fresh a g o) :
    (a.apply o).2 = (idealApply a g o).2 ∧ Sync (a.apply o).1 (idealApply a g o).1 := by
  cases o with
  | issue t =>
    simp only [Ag.apply, Ag.issue, idealApply]
    split
    · exact ⟨rfl, hs⟩
    · exact ⟨rfl, hs.update (a.next + 1) (fun _ _ => rfl) (AMap.get_set_ne _ _ _) (AMap.get_set_ne _ _ _)
        (by rw [AMap.get_set_same, hs.fwd, hf]) (by simp [AMap.get_set_same])⟩
  | req s i t p =>
    simp only [Ag.apply, idealApply]
    rcases a.onReq_cases s i t p with ⟨ok, h⟩ | ⟨n, rest, h⟩ <;> rw [h]
    · exact ⟨rfl, hs⟩
    · exact ⟨rfl, hs.update i (AMap.get_set_ne _ _ _) (fun _ _ => rfl) (AMap.get_set_ne _ _ _)
        (by simp [AMap.get_set_same]) (by rw [AMap.get_set_same, hs.pend, hf]; rfl)⟩
  | resp i ok tag =>
    have hsync : Sync { a with pending := a.pending.del i, fwd := a.fwd.del i } (g.del i) :=
      hs.update i (AMap.get_del_ne _ _) (AMap.get_del_ne _ _) (AMap.get_del_ne _ _)
        (by simp [AMap.get_del_same]) (by simp [AMap.get_del_same])
    simp only [Ag.apply, Ag.onResp, idealApply, hs.pend i, hs.fwd i]
    rcases g.get i with _ | _ | p <;> exact ⟨rfl, hsync⟩
  | cancel i =>
    have h1 := hs.fwd i
    simp only [Ag.apply, Ag.cancel, idealApply, hs.pend i]
    rcases hg : g.get i with _ | _ | p
    · exact ⟨rfl, hs⟩
    · rw [hg] at h1
      exact ⟨rfl, hs.update i (fun _ _ => rfl) (AMap.get_del_ne _ _) (AMap.get_del_ne _ _) (by simp [AMap.get_del_same, h1])
        (by simp [AMap.get_del_same])⟩
    · exact ⟨rfl, hs⟩
  | issueFail t =>
    simp only [fresh] at hf
    simp only [Ag.apply, Ag.issueFail, idealApply]
    split
    · exact ⟨rfl, hs⟩
    · refine ⟨rfl, hs.update (a.next + 1) (fun _ _ => rfl)
        (fun j hj => (AMap.get_del_ne _ _ j hj).trans (AMap.get_set_ne _ _ _ j hj)) (fun _ _ => rfl) (hs.fwd _) ?_⟩
      simp [AMap.get_del_same, hf]
  | sleep => exact ⟨rfl, { hs with }⟩

/-- **Request ids of one agent are never reused**: no operation lowers `nextControlID`, a cancelled
    request keeps its id burnt, and every new local request gets an id above all earlier ones. -/
theorem C39_local_ids_never_reused (a : Ag) (o : Op) :
    a.next ≤ (a.apply o).1.next ∧
    (∀ t, o = .issue t → a.peers.contains t = true →
      (a.apply o).1.next = a.next + 1 ∧ (a.apply o).2 = [.send t (.req (a.next + 1) t [])]) := by
  refine ⟨?_, fun t h hp => ?_⟩
  · cases o with
    | issue t => rw [Ag.apply]; fun_cases Ag.issue a t <;> simp +zetaDelta
    | req s i t p => rw [Ag.apply]; fun_cases Ag.onReq a s i t p <;> simp
    | resp i ok tag => rw [Ag.apply]; fun_cases Ag.onResp a i ok tag <;> simp +zetaDelta
    | cancel i => rw [Ag.apply]; fun_cases Ag.cancel a i <;> simp
    | issueFail t => rw [Ag.apply]; fun_cases Ag.issueFail a t <;> simp
    | sleep => exact Nat.le_refl _
  · subst h
    have hm : t ∈ a.peers := by simpa using hp
    simp [Ag.apply, Ag.issue, hm]

/-- the two halves of a local request compose to `issue` / `issueFail`. -/
theorem C39_issue_is_begin_then_end (a : Ag) (t : Nat) :
    (match a.issueBegin t with
      | some (a', id) => a'.issueEnd t id true
      | none => (a, [.sendErr])) = a.issue t ∧
    (match a.issueBegin t with
      | some (a', id) => a'.issueEnd t id false
      | none => (a, [.sendErr])) = a.issueFail t := by
  unfold Ag.issueBegin Ag.issue Ag.issueFail Ag.issueEnd
  by_cases hm : t ∈ a.peers <;> simp [hm]

/-- A failed write burns the id: the counter is ahead by one afterwards, nothing is pending under
    that id, and the next request gets a strictly larger id.  Sleep / wake never touch the counter. -/
theorem C39_failed_send_and_sleep_keep_ids_burnt (a : Ag) (t : Nat) (hp : a.peers.contains t = true) :
    (a.issueFail t).1.next = a.next + 1 ∧ (a.issueFail t).2 = [.sendErr] ∧ a.sleep.next = a.next ∧
      a.sleep.pending = a.pending ∧ a.sleep.fwd = a.fwd := by
  have hm : t ∈ a.peers := by simpa using hp
  simp [Ag.issueFail, Ag.sleep, hm]

/-- Run both agents over a history; `okRun` says every request is `fresh` when it arrives. -/
def runBoth : Ag → AMap Origin → List Op → List (List Out) × List (List Out)
  | _, _, [] => ([], [])
  | a, g, o :: os =>
    let r := runBoth (a.apply o).1 (idealApply a g o).1 os
    ((a.apply o).2 :: r.1, (idealApply a g o).2 :: r.2)

def okRun : Ag → AMap Origin → List Op → Prop
  | _, _, [] => True
  | a, g, o :: os => fresh a g o ∧ okRun (a.apply o).1 (idealApply a g o).1 os

/-- **C39_partial.**  On every history with distinct live request ids the real agent emits, step
    by step, exactly what the ideal agent emits: a response goes to the one requester of that id
    (the local caller or the peer it was relayed for) and to nobody else. -/
theorem C39_partial (ops : List Op) :
    ∀ (a : Ag) (g : AMap Origin), Sync a g → okRun a g ops → (runBoth a g ops).1 = (runBoth a g ops).2 := by
  induction ops with
  | nil => exact fun _ _ _ _ => rfl
  | cons o os ih =>
    intro a g hs hr
    obtain ⟨h1, h2⟩ := sync_step hs o hr.1
    simp only [runBoth]
    rw [h1, ih _ _ h2 hr.2]

theorem sync_init (self : Nat) (peers : List Nat) : Sync { self := self, peers := peers } [] :=
  ⟨fun _ => rfl, fun _ => rfl⟩

example : okRun { self := 3, peers := [1, 2, 4, 5] } []
    [.req 1 11 4 [], .req 2 7 5 [], .issue 4, .resp 7 true 5, .resp 11 true 4, .resp 1 true 4] :=
  ⟨rfl, rfl, rfl, trivial, trivial, trivial, trivial⟩

/-! ### the system-level statement and its refutation -/

/-- Star topology of the witness: requesters 1 and 2, targets 4 and 5, all connected to transit 3. -/
def witnessNet : Net :=
  { agents := [(1, { self := 1, peers := [3] }), (2, { self := 2, peers := [3] }),
               (3, { self := 3, peers := [1, 2, 4, 5] }),
               (4, { self := 4, peers := [3] }), (5, { self := 5, peers := [3] })] }

/-- Every delivery at agent `i` for request id `r` must carry the tag of the agent that `i`'s
    request `r` targeted; and every issued request is eventually answered (FIFO run to quiescence). -/
def C39_statement : Prop :=
  ∀ (t1 t2 : Nat), t1 ∈ [4, 5] → t2 ∈ [4, 5] →
    let n := (((witnessNet.issueVia 1 t1 3 []).issueVia 2 t2 3 []).runQ 16)
    n.queue = [] ∧ n.delivered.length = 2 ∧
      ∀ d ∈ n.delivered, (d.1 = 1 → d.2.2.2 = t1) ∧ (d.1 = 2 → d.2.2.2 = t2)

/-- Agents 1 and 2 both issue their first request (id 1) through transit 3, to targets 4 and 5:
    `forwardedControl[1]` is overwritten; agent 2 receives agent 4's answer, agent 1 receives nothing. -/
theorem C39_refuted_trace :
    (((witnessNet.issueVia 1 4 3 []).issueVia 2 5 3 []).runQ 16).delivered = [(2, 1, true, 4)] := by
  decide

/-- One delivery where the statement asks for two. -/
theorem C39_refuted : ¬ C39_statement := fun h =>
  absurd (C39_refuted_trace ▸ (h 4 5 (by decide) (by decide)).2.1) (by decide)

/-- A transit that has a pending request of its own with the same id swallows the response it
    should have relayed (and hands it to its own caller). -/
theorem C39_refuted_swallow :
    let a : Ag := { self := 3, peers := [1, 4, 5] }
    let a1 := (a.issue 5).1                 -- own request, id 1, to agent 5
    let a2 := (a1.onReq 1 1 4 []).1         -- relays request id 1 of peer 1 to agent 4
    (a2.onResp 1 true 4).2 = [.deliver 1 true 4] := by
  decide

/-- With distinct ids the same scenario is served correctly (non-vacuity of the partial theorem's
    hypothesis at system level). -/
example :
    let n0 := witnessNet.setAgent 2 { self := 2, peers := [3], next := 100 }
    (((n0.issueVia 1 4 3 []).issueVia 2 5 3 []).runQ 16).delivered = [(1, 1, true, 4), (2, 101, true, 5)] := by
  decide +kernel

end MM.C39

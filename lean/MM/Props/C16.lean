/-
  C16 — Concurrent tunnels stay isolated and byte-exact across shared hops.

  "… each endpoint receives exactly the bytes its own counterpart sent, in order. No frame of one
   tunnel ever reaches, closes or resets another tunnel. This holds for TCP streams, port forwards,
   UDP associations and ICMP sessions."

  Model: MM/Model/C16.lean — the relay table and the relay dispatch of one transit agent, keyed
  exactly as in Go (bare stream ids).  A transit agent never looks into payloads (it forwards the
  frame's payload bytes unchanged), so isolation at a transit is: every frame of a tunnel is
  forwarded on that tunnel's other leg, and no operation addressed to one tunnel changes another.

  The pinned code does NOT have this property (`C16_refuted`): all the protocol guarantees is that
  the legs of different tunnels differ as (peer, stream id) PAIRS, but the indices are keyed by the
  bare stream id.  `C16_partial` is the strongest restriction that holds: tunnels whose bare stream
  ids are pairwise distinct per index (`Distinct`).  `Distinct` reaches the theorems as `Consistent`,
  the invariant of the two indices that inserting a `Distinct` set of records establishes
  (`C16_partial_statement`).  The defect is design-level (known finding).
-/
import MM.Lemmas.C16
import MM.Model.C16x
import MM.Gen.LockC16

namespace MM.C16
open Table

/-! ### atomic-step tie (tools/lockshape.go over internal/agent/relay_table.go): every `relayTable`
    method is ONE locked region and touches the indices only under the lock — the model treats each
    method as one atomic function. -/
theorem C16_lock_table_methods_atomic :
    Gen.LockC16.acquisitions = [("relayTable.Delete", 1), ("relayTable.DeleteByPeer", 1), ("relayTable.Insert", 1),
      ("relayTable.LookupBoth", 1), ("relayTable.LookupDownstream", 1), ("relayTable.PopDownstreamFromPeer", 1),
      ("relayTable.PopMatchingPeer", 1)] ∧
    (Gen.LockC16.accesses.all (fun a => if a.2.2.1 then a.2.2.2 == "W" else (a.2.2.2 == "W" || a.2.2.2 == "R"))) = true := by
  decide +kernel

/-- Every binding is stored under its own key and is present in BOTH indices (the invariant
    relay_table.go documents), and each index has one binding per key. -/
structure Consistent (t : Table) : Prop where
  nodupUp : t.byUp.keys.Nodup
  nodupDown : t.byDown.keys.Nodup
  up : ∀ k e, t.byUp.get k = some e → e.upId = k ∧ t.byDown.get e.downId = some e
  down : ∀ k e, t.byDown.get k = some e → e.downId = k ∧ t.byUp.get e.upId = some e

/-- The two mirror-image halves of `Consistent`, in the form the `Linked` lemmas take. -/
theorem Consistent.linkedUp {t : Table} (hc : Consistent t) : Linked Entry.upId Entry.downId t.byUp t.byDown := hc.up
theorem Consistent.linkedDown {t : Table} (hc : Consistent t) : Linked Entry.downId Entry.upId t.byDown t.byUp := hc.down

def Live (t : Table) (e : Entry) : Prop := t.byUp.get e.upId = some e

def Fresh (t : Table) (e : Entry) : Prop := t.byUp.get e.upId = none ∧ t.byDown.get e.downId = none

theorem consistent_empty : Consistent {} :=
  ⟨.nil, .nil, nofun, nofun⟩

/-- **Index consistency under `Distinct`** — `Insert` of a record whose two ids are unbound (`Fresh`). -/
theorem C16_relay_index_consistent {t : Table} {e : Entry} (hc : Consistent t) (hf : Fresh t e) :
    Consistent (t.insert e) :=
  ⟨Map.nodup_set hc.nodupUp, Map.nodup_set hc.nodupDown,
    hc.linkedUp.set e hf.2, hc.linkedDown.set e hf.1⟩

theorem consistent_delete {t : Table} {e : Entry} (hc : Consistent t) (hl : Live t e) :
    Consistent (t.delete e) ∧ ¬ Live (t.delete e) e ∧
      ∀ x, Live t x → x ≠ e → Live (t.delete e) x ∧ (t.delete e).byDown.get x.downId = some x := by
  have hd := (hc.up _ _ hl).2
  have up := hc.linkedUp.get_del hl
  have down := hc.linkedDown.get_del hd
  refine ⟨⟨Map.nodup_del hc.nodupUp, Map.nodup_del hc.nodupDown,
    hc.linkedUp.filter up down, hc.linkedDown.filter down up⟩, ?_, fun x hx hne => ?_⟩
  · exact fun h => nomatch (Map.get_del_same _ _).symm.trans h
  · have keep : (some x).filter (· != e) = some x := by rw [Option.filter_some, if_pos (bne_iff_ne.2 hne)]
    exact ⟨(up _).trans (by rw [hx, keep]), (down _).trans (by rw [(hc.up _ _ hx).2, keep])⟩

/-- **Close/reset isolation under `Distinct`.**  On a consistent table `PopMatchingPeer` removes at
    most the one record it returns; every other live record stays live in both indices and the
    table stays consistent. -/
theorem C16_partial_close_isolated {t : Table} (hc : Consistent t) (id peer : Nat) :
    Consistent (t.popMatchingPeer id peer).1 ∧
      ∀ x, Live t x → (∀ e d, (t.popMatchingPeer id peer).2 = some (e, d) → x ≠ e) →
        Live (t.popMatchingPeer id peer).1 x := by
  rcases t.popMatchingPeer_cases id peer with h | ⟨e, d, h, hf⟩ <;> rw [h]
  · exact ⟨hc, fun x hx _ => hx⟩
  · have hl : Live t e := hf.elim (fun hu => by rw [Live, (hc.up _ _ hu).1]; exact hu) fun hd => (hc.down _ _ hd).2
    obtain ⟨h1, _, h3⟩ := consistent_delete hc hl
    exact ⟨h1, fun x hx hne => (h3 x hx (hne e d rfl)).1⟩

/-- **Routing isolation under `Distinct`.**  On a consistent table the frames of a live tunnel `e`
    coming from its upstream leg go to its own downstream leg; frames from its downstream leg go to
    its own upstream leg provided no other tunnel's upstream leg is the same (peer, id) pair (stream
    ids opened by the two ends of one connection have different parity, C38). -/
theorem C16_partial {t : Table} {e : Entry} (hc : Consistent t) (hl : Live t e) :
    t.route e.upPeer e.upId = some (e.downPeer, e.downId) ∧
    ((∀ u, t.byUp.get e.downId = some u → u.upPeer ≠ e.downPeer) →
      t.route e.downPeer e.downId = some (e.upPeer, e.upId)) :=
  ⟨route_up hl, route_down (hc.up _ _ hl).2⟩

/-- Non-vacuity of `C16_partial`: a consistent table with two live tunnels. -/
example : Consistent ((({} : Table).insert ⟨1, 1, 4, 1⟩).insert ⟨2, 3, 4, 3⟩) :=
  C16_relay_index_consistent (C16_relay_index_consistent consistent_empty ⟨rfl, rfl⟩) ⟨rfl, rfl⟩

/-- `Distinct`: no two records of one agent share a bare stream id in the same index. -/
def Distinct (es : List Entry) : Prop := es.Pairwise (fun a b => a.upId ≠ b.upId ∧ a.downId ≠ b.downId)

theorem insert_live {t : Table} {e : Entry} : Live (t.insert e) e :=
  Map.get_set_same _ _ _

theorem insert_keeps_live {t : Table} {e x : Entry} (hx : Live t x) (hne : x.upId ≠ e.upId) :
    Live (t.insert e) x :=
  (Map.get_set_ne hne).trans hx

theorem Fresh.insert {t : Table} {a e : Entry} (h : Fresh t e) (hu : e.upId ≠ a.upId) (hd : e.downId ≠ a.downId) :
    Fresh (t.insert a) e :=
  ⟨(Map.get_set_ne hu).trans h.1, (Map.get_set_ne hd).trans h.2⟩

theorem fold_insert_distinct (es : List Entry) :
    ∀ t : Table, Consistent t → (∀ e ∈ es, Fresh t e) → Distinct es →
      Consistent (es.foldl Table.insert t) ∧ (∀ x, Live t x → Live (es.foldl Table.insert t) x) ∧
        ∀ e ∈ es, Live (es.foldl Table.insert t) e := by
  induction es with
  | nil => exact fun t hc _ _ => ⟨hc, fun _ h => h, nofun⟩
  | cons a rest ih =>
    intro t hc hf hd
    obtain ⟨hda, hd⟩ := List.pairwise_cons.1 hd
    have hfa := hf a List.mem_cons_self
    obtain ⟨h1, h2, h3⟩ := ih (t.insert a) (C16_relay_index_consistent hc hfa)
      (fun e he => (hf e (List.mem_cons_of_mem _ he)).insert (hda e he).1.symm (hda e he).2.symm) hd
    refine ⟨h1, fun x hx => h2 x (insert_keeps_live hx fun heq => ?_), fun e he => ?_⟩
    · -- a live record cannot sit under the fresh record's upstream id
      exact nomatch (heq ▸ hx : t.byUp.get a.upId = some x).symm.trans hfa.1
    · rcases List.mem_cons.1 he with rfl | her
      · exact h2 _ insert_live
      · exact h3 e her

/-- **C16_partial, in the shape of the statement**: when the tunnels relayed by an agent are
    `Distinct`, every tunnel's upstream frames are forwarded on its own downstream leg (and the
    indices are consistent, so `C16_partial` / `C16_partial_close_isolated` apply to every record). -/
theorem C16_partial_statement (es : List Entry) (hd : Distinct es) :
    Consistent (es.foldl Table.insert {}) ∧
      ∀ e ∈ es, (es.foldl Table.insert {}).route e.upPeer e.upId = some (e.downPeer, e.downId) := by
  obtain ⟨h1, _, h3⟩ := fold_insert_distinct es {} consistent_empty
    (fun _ _ => ⟨rfl, rfl⟩) hd
  exact ⟨h1, fun e he => route_up (h3 e he)⟩

example : Distinct [⟨1, 1, 4, 1⟩, ⟨2, 3, 4, 3⟩] := by unfold Distinct; decide

/-- **An agent that is exit endpoint and transit at once.**  Whatever records its exit handler holds
    (keyed by bare stream id — possibly the same number), the frames of a live relayed tunnel are
    forwarded on the tunnel's own leg and never reach the exit handler: the relay table, which is
    disambiguated by source peer, is consulted first. -/
theorem C16_relay_frames_never_reach_exit (n : Node) {e : Entry} (hc : Consistent n.a.tcp) (hl : Live n.a.tcp e)
    (serial : Nat) (payload : String) :
    n.data e.upPeer e.upId serial payload = (n, [⟨e.downPeer, "data", e.downId, payload⟩], []) := by
  have := (C16_partial hc hl).1
  simp [Node.data, this]

/-- A frame no relay entry claims is handled by the exit handler alone (the relay tables are
    untouched). -/
theorem C16_unclaimed_frame_leaves_relay_untouched (n : Node) (peer id serial : Nat)
    (h : n.a.tcp.route peer id = none) (payload : String) (fin : Bool) :
    (n.data peer id serial payload fin).1.a = n.a := by
  simp only [Node.data, h]

/-- **Byte-exact relaying.**  Whatever a transit forwards for a data / ack / err frame carries exactly
    the payload (and flags) it received — nothing is truncated, duplicated or rewritten, and exactly one
    frame goes out. -/
theorem C16_relay_payload_unchanged (a : Agent) (k : Kind) (peer id : Nat) (payload : String) :
    (∀ r, a.relayData k peer id payload = some r → ∃ q j, r.2 = [⟨q, "data", j, payload⟩]) ∧
    (∀ r, a.relayAck k peer id payload = some r → ∃ q j, r.2 = [⟨q, "ack", j, payload⟩]) ∧
    (∀ r, a.relayErr k peer id payload = some r → ∃ q j, r.2 = [⟨q, "err", j, payload⟩]) := by
  refine ⟨?_, ?_, ?_⟩
  · fun_cases Agent.relayData a k peer id payload <;> intro r h <;> cases h
    exact ⟨_, _, rfl⟩
  · fun_cases Agent.relayAck a k peer id payload <;> intro r h <;> cases h
    exact ⟨_, _, rfl⟩
  · fun_cases Agent.relayErr a k peer id payload <;> intro r h <;> cases h
    exact ⟨_, _, rfl⟩

/-- **Ingress UDP clients are independent**: an OPEN_ERR for the client whose local stream id is `id`
    removes that client's reverse-index entry and nobody else's. -/
theorem C16_ingress_err_targets_one (a : Agent) (peer id j : Nat) (hj : j ≠ id) :
    (a.udpIngressErr peer id).1.uidx.contains j = a.uidx.contains j := by
  unfold Agent.udpIngressErr Agent.relayErr
  split
  · next a' l h =>
    -- a relayed stream: `relayErr` replaces the UDP relay table and nothing else
    split at h
    · cases h; rfl
    · cases h
  · simp [hj]

/-- The full statement, for the relay table: whenever the legs of the tunnels opened through an
    agent are pairwise different as (peer, stream id) pairs — which is all the per-connection stream
    id allocation guarantees — every tunnel's frames are forwarded on its own legs. -/
def C16_statement : Prop :=
  ∀ es : List Entry,
    es.Pairwise (fun a b => (a.upPeer, a.upId) ≠ (b.upPeer, b.upId) ∧ (a.downPeer, a.downId) ≠ (b.downPeer, b.downId)
      ∧ (a.upPeer, a.upId) ≠ (b.downPeer, b.downId) ∧ (a.downPeer, a.downId) ≠ (b.upPeer, b.upId)) →
    ∀ e ∈ es, (es.foldl Table.insert {}).route e.upPeer e.upId = some (e.downPeer, e.downId)

/-- Two upstream peers (1 and 2) each open their first stream (id 1) through the same transit
    toward peer 4: the second `Insert` overwrites `byUpstream[1]`; the first tunnel's data is no
    longer forwarded. -/
theorem C16_refuted : ¬ C16_statement := by
  intro h
  have := h [⟨1, 1, 4, 1⟩, ⟨2, 1, 4, 3⟩] (by decide) ⟨1, 1, 4, 1⟩ (by decide)
  revert this
  decide

/-- … and the first tunnel's close arriving from downstream tears the SECOND tunnel down:
    afterwards the second tunnel's frames are dropped too, and an orphan of it stays in `byDownstream`. -/
theorem C16_refuted_close_hits_other :
    let t := ([⟨1, 1, 4, 1⟩, ⟨2, 1, 4, 3⟩] : List Entry).foldl Table.insert {}
    let t' := (t.popMatchingPeer 1 4).1
    t.route 2 1 = some (4, 3) ∧ t'.route 2 1 = none ∧ t'.byDown.get 3 = some ⟨2, 1, 4, 3⟩ := by
  decide

end MM.C16

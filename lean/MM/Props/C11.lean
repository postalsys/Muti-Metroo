import MM.Lemmas.C11

/-
  C11 — route flooding terminates and never loops.

  Model = MM/Model/C11.lean.  Proved for every topology, every schedule of deliveries, losses,
  duplicates, cache expiries, stale cleanups, announcements and replays unless stated otherwise:

  * `C11_seenby_nodup`   no in-flight advertisement ever lists an agent twice in seen-by.
  * `C11_deliver_decreases` / `C11_terminates`   the measure `mu = Σ_frames (n+1)^(#agents not in
    seen-by)` strictly decreases on every delivery and never increases on loss, expiry, cleanup,
    connect: in a schedule without new announcements / replays / duplications at most `mu s`
    deliveries happen, whatever the order and wherever the cache expires.
  * `C11_once_cached`    between two expiries of its key an agent processes an advertisement at
    most once; `C11_forward_once` each processing sends at most one copy per neighbour.
  * `C11_no_self_path`   no agent stores a route whose path contains itself.
  * `C11_statement` (at most once under EVERY schedule including expiry, and no stored path
    revisits an agent) is refuted twice (`C11_refuted_expiry`, `C11_refuted_replay`; open findings
    C11-reprocess-after-expiry, C11-replay-path-revisit), and `C11_partial` proves it for schedules
    in which that key does not expire / histories without third-party replays.
-/
namespace MM.C11

/-! ### seen-by lists never repeat an agent -/

theorem C11_seenby_nodup (n mh : Nat) (L : Node → List RAd) (ops : List Op) :
    ∀ f, f ∈ (run (init n mh L) ops).flight → f.adv.seenBy.Nodup :=
  run_induction _ ops (by intro f hf; cases hf)
    (by
      intro s op hI f hf
      cases flight_step hf with
      | old h => exact hI f h
      | ann _ _ h | wdr _ _ _ _ h => rw [h.seenBy]; simp
      | fwd a m hm _ _ hsb _ hadv => exact hadv ▸ fwdAdv_seenBy_nodup (hI _ hm) hsb
      | rep _ _ _ _ hadv => rw [(mem_replayAdvs hadv).seenBy]; simp)

/-! ### no stored path contains the storing agent -/

theorem C11_no_self_path (n mh : Nat) (L : Node → List RAd) (ops : List Op) :
    ∀ x e, e ∈ ((run (init n mh L) ops).nodes x).entries → x ∉ e.path :=
  run_induction _ ops
    (by
      intro x e he
      rw [(initNode_entries he).1.1]
      exact List.not_mem_nil)
    (by
      intro s op h x e he
      rcases entries_step he with h' | ⟨a, m, _, _, _, _, hp, r, _, rfl⟩
      · exact h x e h'
      · exact hp)

/-! ### the termination measure -/

/-- Number of agents that have not seen the advertisement yet. -/
def weight (n : Nat) (m : Adv) : Nat := ((List.range n).filter (fun x => !(m.seenBy.contains x))).length

def muL (n : Nat) (fl : List Flight) : Nat := (fl.map (fun f => (n + 1) ^ weight n f.adv)).sum

def mu (s : Net) : Nat := muL s.n s.flight

theorem mem_unseen {n x : Nat} {l : List Node} :
    x ∈ (List.range n).filter (fun x => !(l.contains x)) ↔ x < n ∧ x ∉ l := by
  simp [List.mem_filter]

theorem weight_fwd {n b : Nat} {m : Adv} (hb : b < n) (hns : b ∉ m.seenBy) :
    weight n (fwdAdv b m) + 1 ≤ weight n m := by
  unfold weight
  rw [fwdAdv_seenBy]
  -- `b` and the agents not in `seenBy ++ [b]` are distinct agents not in `seenBy`
  refine List.Nodup.length_le_of_subset (l₁ := b :: _)
    (List.nodup_cons.2 ⟨fun h => ?_, List.nodup_range.filter _⟩) (fun x hx => mem_unseen.2 ?_)
  · exact (mem_unseen.1 h).2 (List.mem_append_right _ List.mem_cons_self)
  · rcases List.mem_cons.1 hx with rfl | hx
    · exact ⟨hb, hns⟩
    · exact ⟨(mem_unseen.1 hx).1, fun h => (mem_unseen.1 hx).2 (List.mem_append_left _ h)⟩

theorem sum_map_eraseIdx {α : Type} (l : List α) (g : α → Nat) (pos : Nat) (x : α) (h : l[pos]? = some x) :
    (l.map g).sum = g x + ((l.eraseIdx pos).map g).sum := by
  obtain ⟨hlt, rfl⟩ := List.getElem?_eq_some_iff.1 h
  -- `l = take pos l ++ l[pos] :: drop (pos + 1) l`, and `eraseIdx` leaves out the middle
  conv => lhs; rw [← List.take_append_drop pos l, List.drop_eq_getElem_cons hlt]
  rw [List.eraseIdx_eq_take_drop_succ, List.map_append, List.map_append, List.map_cons, List.sum_append_nat,
    List.sum_append_nat, List.sum_cons, Nat.add_left_comm]

theorem sum_map_sublist {α : Type} {l₁ l₂ : List α} (h : l₁.Sublist l₂) (g : α → Nat) :
    (l₁.map g).sum ≤ (l₂.map g).sum := by
  induction h with
  | slnil => exact Nat.le_refl _
  | cons a _ ih => rw [List.map_cons, List.sum_cons]; exact Nat.le_trans ih (Nat.le_add_left _ _)
  | cons_cons a _ ih =>
    rw [List.map_cons, List.map_cons, List.sum_cons, List.sum_cons]
    exact Nat.add_le_add_left ih _

theorem muL_append (n : Nat) (l1 l2 : List Flight) : muL n (l1 ++ l2) = muL n l1 + muL n l2 := by
  simp [muL]

theorem peersOf_length (s : Net) (b : Node) : (peersOf s b).length ≤ s.n := by
  unfold peersOf
  exact Nat.le_trans (List.length_filter_le _ _) (by simp)

/-- What `b` sends when it handles `m`: at most `n` frames, each strictly lighter than `m`. -/
theorem muL_outs_lt (s : Net) (a b : Node) (m : Adv) (hb : b < s.n) :
    muL s.n ((handle (s.maxHops b) (peersOf s b) b a s.clock m (s.nodes b)).2.1.map
      (fun (pf : Node × Adv) => ({ src := b, dst := pf.1, adv := pf.2 } : Flight)))
    < (s.n + 1) ^ weight s.n m := by
  rcases handle_outs (s.maxHops b) (peersOf s b) b a s.clock m (s.nodes b) with h | ⟨h, hns, _⟩
  · rw [h]; exact Nat.pow_pos (Nat.succ_pos _)
  · have hlen : (fwdTargets (peersOf s b) a (fwdAdv b m).seenBy).length ≤ s.n :=
      Nat.le_trans (List.length_filter_le _ _) (peersOf_length s b)
    have hpow := Nat.pow_le_pow_right (Nat.succ_pos s.n) (weight_fwd (n := s.n) hb hns)
    rw [Nat.pow_succ] at hpow
    -- every copy weighs the same
    rw [h]
    unfold muL fwdOuts
    rw [List.map_map, List.map_map]
    show (List.map (fun _ => (s.n + 1) ^ weight s.n (fwdAdv b m)) _).sum < _
    rw [List.map_const', List.sum_replicate_nat]
    calc _ ≤ s.n * (s.n + 1) ^ weight s.n (fwdAdv b m) := Nat.mul_le_mul_right _ hlen
      _ < (s.n + 1) ^ weight s.n (fwdAdv b m) * (s.n + 1) := by
        rw [Nat.mul_succ, Nat.mul_comm]
        exact Nat.lt_add_of_pos_right (Nat.pow_pos (Nat.succ_pos _))
      _ ≤ _ := hpow

/-- `deliver a b i` addresses a frame that is really in flight on a live link. -/
def Effective (s : Net) (a b i : Nat) : Prop :=
  a < s.n ∧ b < s.n ∧ linked s a b = true ∧ (pickFlight (tick s) a b i).isSome = true

instance (s : Net) (a b i : Nat) : Decidable (Effective s a b i) := by unfold Effective; infer_instance

/-- Every delivery strictly decreases the measure — whatever the outcome (new, seen, dropped). -/
theorem C11_deliver_decreases (s : Net) (a b i : Nat) (h : Effective s a b i) :
    mu (step s (.deliver a b i)) < mu s := by
  obtain ⟨ha, hb, hl, hpick⟩ := h
  rcases step_hand s a b i _ (Or.inl rfl) with ⟨hn | hn, _⟩ | ⟨pos, f, fl, hp, _, hfl, _, _, hstep⟩
  · exact absurd ⟨ha, hb, hl⟩ hn
  · rw [hn] at hpick; cases hpick
  · -- the frame taken out weighs more than everything `b` sends on
    obtain rfl := hfl rfl
    have hsplit := sum_map_eraseIdx s.flight (fun f => (s.n + 1) ^ weight s.n f.adv) pos f (pickFlight_spec hp).1
    have hout := muL_outs_lt { tick s with flight := s.flight.eraseIdx pos } a b f.adv hb
    unfold mu
    rw [hstep, process_flight, muL_append]
    unfold muL at hout ⊢
    exact Nat.lt_of_lt_of_eq (Nat.add_lt_add_left hout _) (Nat.add_comm _ _ ▸ hsplit.symm)

/-- Ops that create no traffic. (`announce`, `withdraw`, `replay` and `dup` are the ones that do.) -/
def quiet : Op → Bool
  | .announce _ _ => false
  | .withdraw _ _ => false
  | .replay _ _ _ => false
  | .dup _ _ _ => false
  | _ => true

theorem quiet_not_increasing (s : Net) (op : Op) (hq : quiet op = true) : mu (step s op) ≤ mu s := by
  -- a quiet op other than an effective delivery only takes frames out of flight
  have sub : (step s op).flight.Sublist s.flight → mu (step s op) ≤ mu s := fun h => by
    unfold mu muL; rw [step_n]; exact sum_map_sublist h _
  have ite : ∀ (c : Prop) [Decidable c] (x : Net), x.flight.Sublist s.flight →
      (if c then x else tick s).flight.Sublist s.flight := by
    intro c _ x hx
    by_cases h : c
    · rw [if_pos h]; exact hx
    · rw [if_neg h]; exact List.Sublist.refl _
  cases op with
  | announce _ _ | withdraw _ _ | replay _ _ _ | dup _ _ _ => cases hq
  | deliver a b i =>
    by_cases h : Effective s a b i
    · exact Nat.le_of_lt (C11_deliver_decreases s a b i h)
    · rcases step_hand s a b i _ (Or.inl rfl) with ⟨_, hidle⟩ | ⟨pos, f, _, hp, hc, _⟩
      · exact sub (hidle ▸ List.Sublist.refl _)
      · exact absurd ⟨hc.1, hc.2.1, hc.2.2, by rw [hp]; rfl⟩ h
  | drop a b i =>
    refine sub (ite _ _ ?_)
    cases pickFlight (tick s) a b i with
    | none => exact List.Sublist.refl _
    | some pf => exact List.eraseIdx_sublist _ _
  | disconnect a b => exact sub (ite _ _ List.filter_sublist)
  | dump => exact sub (List.Sublist.refl _)
  | connect _ _ | expire _ _ _ | stale _ _ => exact sub (ite _ _ (List.Sublist.refl _))

/-- Number of effective deliveries in a schedule. -/
def deliveries (s : Net) : List Op → Nat
  | [] => 0
  | op :: t =>
    (match op with
      | .deliver a b i => if Effective s a b i then 1 else 0
      | _ => 0) + deliveries (step s op) t

/-- Quiescence under every schedule: as long as nothing new is announced, replayed or duplicated,
    the number of deliveries that can still happen — in any order, with losses, with cache expiry
    and stale cleanup at any point — is bounded by the measure of the current state. -/
theorem C11_terminates (s : Net) (ops : List Op) (hq : ∀ op, op ∈ ops → quiet op = true) :
    deliveries s ops + mu (run s ops) ≤ mu s := by
  induction ops generalizing s with
  | nil => exact Nat.le_of_eq (Nat.zero_add _)
  | cons op t ih =>
    have ih' := ih (step s op) (fun o ho => hq o (List.mem_cons_of_mem _ ho))
    have hle := quiet_not_increasing s op (hq op List.mem_cons_self)
    show (_ + deliveries (step s op) t) + mu (run (step s op) t) ≤ mu s
    refine Nat.le_trans (Nat.le_of_eq (Nat.add_assoc _ _ _)) (Nat.le_trans (Nat.add_le_add_left ih' _) ?_)
    -- the delivery counted for `op`, if any, is paid for by the decrease of `mu`
    cases op with
    | deliver a b i =>
      show (if Effective s a b i then 1 else 0) + _ ≤ _
      by_cases h : Effective s a b i
      · rw [if_pos h, Nat.add_comm]; exact C11_deliver_decreases s a b i h
      · rw [if_neg h, Nat.zero_add]; exact hle
    | _ => exact Nat.le_trans (Nat.le_of_eq (Nat.zero_add _)) hle

/-! ### at most once while cached -/

/-- The frame (if any) that op hands to agent `b`. -/
def handedTo (s : Net) (b : Node) : Op → Option Adv
  | .deliver a b' i =>
    if b' = b ∧ a < s.n ∧ b < s.n ∧ linked s a b = true then (pickFlight (tick s) a b i).map (·.2.adv) else none
  | .dup a b' i =>
    if b' = b ∧ a < s.n ∧ b < s.n ∧ linked s a b = true then (pickFlight (tick s) a b i).map (·.2.adv) else none
  | _ => none

/-- `b` processes (gets past its seen cache with) an advertisement with key `k` in this op. -/
def processesNow (s : Net) (b : Node) (k : Node × Nat) (op : Op) : Bool :=
  match handedTo s b op with
  | some m => (m.origin, m.seq) == k && !((s.nodes b).seen.contains k)
  | none => false

def processed (b : Node) (k : Node × Nat) (s : Net) : List Op → Nat
  | [] => 0
  | op :: t => (if processesNow s b k op then 1 else 0) + processed b k (step s op) t

def expires (b : Node) (k : Node × Nat) : Op → Bool
  | .expire a o sq => a == b && (o, sq) == k
  | _ => false

theorem handedTo_eq_some {s : Net} {b : Node} {op : Op} {m : Adv} (h : handedTo s b op = some m) :
    ∃ a i pos f, (op = .deliver a b i ∨ op = .dup a b i) ∧ (a < s.n ∧ b < s.n ∧ linked s a b = true) ∧
      pickFlight (tick s) a b i = some (pos, f) ∧ f.adv = m := by
  cases op with
  | deliver a b' i =>
    obtain ⟨⟨rfl, hc⟩, hm⟩ := Option.ite_none_right_eq_some.1 h
    obtain ⟨⟨pos, f⟩, hp, hf⟩ := Option.map_eq_some_iff.1 hm
    exact ⟨a, i, pos, f, Or.inl rfl, hc, hp, hf⟩
  | dup a b' i =>
    obtain ⟨⟨rfl, hc⟩, hm⟩ := Option.ite_none_right_eq_some.1 h
    obtain ⟨⟨pos, f⟩, hp, hf⟩ := Option.map_eq_some_iff.1 hm
    exact ⟨a, i, pos, f, Or.inr rfl, hc, hp, hf⟩
  | _ => cases h

/-- A key that `b` processes was not in its cache, and is afterwards. -/
theorem marked_after {s : Net} {b : Node} {k : Node × Nat} {op : Op}
    (h : processesNow s b k op = true) : k ∉ (s.nodes b).seen ∧ k ∈ ((step s op).nodes b).seen := by
  unfold processesNow at h
  cases hh : handedTo s b op with
  | none => rw [hh] at h; cases h
  | some m =>
    rw [hh] at h
    refine ⟨by simpa using (Bool.and_eq_true_iff.1 h).2, ?_⟩
    obtain rfl : (m.origin, m.seq) = k := beq_iff_eq.1 (Bool.and_eq_true_iff.1 h).1
    obtain ⟨a, i, pos, f, hop, hc, hp, rfl⟩ := handedTo_eq_some hh
    rcases step_hand s a b i op hop with ⟨hidle, _⟩ | ⟨pos', f', fl, hp', _, _, _, _, hstep⟩
    · rcases hidle with hn | hn
      · exact absurd hc hn
      · rw [hn] at hp; cases hp
    · rw [hp] at hp'
      cases hp'
      rw [hstep, process_nodes, if_pos rfl]
      exact mem_handle_seen.2 (Or.inl rfl)

/-- While `k` does not expire at `b`: `b` processes it at most once, and not at all once it is cached. -/
theorem processed_le (b : Node) (k : Node × Nat) (s : Net) (ops : List Op)
    (hne : ∀ op, op ∈ ops → expires b k op = false) :
    processed b k s ops ≤ if k ∈ (s.nodes b).seen then 0 else 1 := by
  induction ops generalizing s with
  | nil => exact Nat.zero_le _
  | cons op t ih =>
    have ih' := ih (step s op) (fun o ho => hne o (List.mem_cons_of_mem _ ho))
    simp only [processed]
    by_cases h : processesNow s b k op = true
    · -- processed now: the key was not cached, and is from now on
      rw [if_pos (marked_after h).2] at ih'
      rw [if_pos h, if_neg (marked_after h).1]
      exact Nat.add_le_add_left ih' 1
    · rw [if_neg h, Nat.zero_add]
      split
      · -- cached and not expiring: still cached
        rename_i hk
        rwa [if_pos (seen_step_mono hk (fun o sq hop heq => by
          have := hne op List.mem_cons_self
          subst hop
          simp [expires, heq] at this))] at ih'
      · exact Nat.le_trans ih' (by split <;> omega)

/-- While its key does not expire at `b`, agent `b` processes an announcement at most once — under
    any delivery order, any duplication, any other activity. -/
theorem C11_once_cached (b : Node) (k : Node × Nat) (s : Net) (ops : List Op)
    (hne : ∀ op, op ∈ ops → expires b k op = false) : processed b k s ops ≤ 1 :=
  Nat.le_trans (processed_le b k s ops hne) (by split <;> omega)

/-- Each processing sends at most one copy to each neighbour (and none back to the sender). -/
theorem C11_forward_once (s : Net) (a b : Node) (m : Adv) :
    ((handle (s.maxHops b) (peersOf s b) b a s.clock m (s.nodes b)).2.1.map Prod.fst).Nodup ∧
    a ∉ (handle (s.maxHops b) (peersOf s b) b a s.clock m (s.nodes b)).2.1.map Prod.fst :=
  handle_forward_once (List.nodup_range.filter _)

/-! ### no stored path revisits an agent — in histories without third-party replays -/

structure PathInv (s : Net) : Prop where
  flight : ∀ f, f ∈ s.flight → f.adv.path.Nodup ∧ ∀ y, y ∈ f.adv.path → y ∈ f.adv.seenBy
  entries : ∀ x e, e ∈ (s.nodes x).entries → e.path.Nodup

theorem pathInv_init (n mh : Nat) (L : Node → List RAd) : PathInv (init n mh L) where
  flight := by intro f hf; cases hf
  entries := by
    intro x e he
    rw [(initNode_entries he).1.1]
    exact List.nodup_nil

theorem pathInv_step {s : Net} {op : Op} (hI : PathInv s) (hb : benignOp s op = true) :
    PathInv (step s op) where
  flight := by
    intro f hf
    cases flight_step hf with
    | old h => exact hI.flight f h
    | ann _ _ h | wdr _ _ _ _ h => rw [h.path, h.seenBy]; simp
    | fwd a m hm _ _ hsb _ hadv =>
      rw [hadv, fwdAdv_seenBy]
      obtain ⟨hnd, hsub⟩ := hI.flight _ hm
      cases hwd : m.wd with
      | true =>
        rw [fwdAdv_path_wd hwd]
        exact ⟨hnd, fun y hy => List.mem_append_left _ (hsub y hy)⟩
      | false =>
        rw [fwdAdv_path hwd]
        exact ⟨List.nodup_cons.2 ⟨fun h => hsb (hsub _ h), hnd⟩, List.forall_mem_cons.2
          ⟨List.mem_append_right _ List.mem_cons_self, fun y hy => List.mem_append_left _ (hsub y hy)⟩⟩
    | rep ord hop _ _ hadv =>
      rw [(benign_replay (hop ▸ hb) hadv).2, (mem_replayAdvs hadv).seenBy]
      exact ⟨by simp, fun y hy => hy⟩
  entries := by
    intro x e he
    rcases entries_step he with h | ⟨a, m, hm, _, _, _, _, r, _, rfl⟩
    · exact hI.entries x e h
    · exact (hI.flight _ hm).1

/-! ### the full statement, its two refutations, and the partial theorem -/

/-- C11 at full strength: under EVERY schedule (cache expiry at any point included) every agent
    processes a given announcement at most once, and no agent ever stores a route whose path
    revisits an agent or passes through itself. -/
def C11_statement : Prop :=
  ∀ (n mh : Nat) (L : Node → List RAd) (ops : List Op),
    (∀ b k, processed b k (init n mh L) ops ≤ 1) ∧
    (∀ x e, e ∈ ((run (init n mh L) ops).nodes x).entries → e.path.Nodup ∧ x ∉ e.path)

def exitAt0 : Node → List RAd := fun x => if x = 0 then [⟨0, 1, 0⟩] else []
def exitAt3 : Node → List RAd := fun x => if x = 3 then [⟨0, 1, 0⟩] else []

/-- (i) open finding C11-reprocess-after-expiry: a duplicate that arrives after the key left the
    cache is processed (and flooded) a second time. -/
def expiryOps : List Op := [.connect 0 1, .announce 0 [], .dup 0 1 0, .expire 1 0 2, .deliver 0 1 0]

theorem C11_refuted_expiry : processed 1 (0, 2) (init 2 0 exitAt0) expiryOps = 2 := by decide

/-- (ii) open finding C11-replay-path-revisit: ring 0-1-2-0, origin 3 and agent 4 hang off agent 0.
    Agent 2 learns the route over 1 (path 1-0-3) and replays its table to agent 0 with seen-by
    reset to [2]; agent 0 — already on the path — floods it on, and agent 4 stores 0-2-1-0-3. -/
def ringOps : List Op := [
  .connect 0 1, .connect 1 2, .connect 2 0, .connect 0 3, .connect 0 4,
  .announce 3 [], .deliver 3 0 0, .deliver 0 1 0, .deliver 1 2 0,
  .replay 2 0 [], .deliver 2 0 0, .deliver 0 4 1]

def ringEntry : Entry :=
  { kind := 0, key := 1, origin := 3, nextHop := 0, metric := 5, path := [0, 2, 1, 0, 3], seq := 1, lu := 12 }

theorem C11_refuted_replay :
    ringEntry ∈ ((run (init 5 0 exitAt3) ringOps).nodes 4).entries ∧ ¬ ringEntry.path.Nodup := by decide +kernel

theorem C11_refuted : ¬ C11_statement := by
  intro h
  have := (h 2 0 exitAt0 expiryOps).1 1 (0, 2)
  rw [C11_refuted_expiry] at this
  omega

/-- What does hold: at most once for every key that does not expire at that agent during the
    schedule (any order, any duplication), and no self / no revisit in every history without
    third-party replays. (`C11_no_self_path` holds unconditionally.) -/
theorem C11_partial (n mh : Nat) (L : Node → List RAd) (ops : List Op) :
    (∀ b k, (∀ op, op ∈ ops → expires b k op = false) → processed b k (init n mh L) ops ≤ 1) ∧
    (benignRun (init n mh L) ops = true →
      ∀ x e, e ∈ ((run (init n mh L) ops).nodes x).entries → e.path.Nodup ∧ x ∉ e.path) := by
  refine ⟨fun b k hne => C11_once_cached b k _ ops hne, fun hb x e he => ⟨?_, C11_no_self_path n mh L ops x e he⟩⟩
  exact (run_induction_benign (P := PathInv) _ ops (pathInv_init n mh L) hb
    (fun s op hI hb => pathInv_step hI hb)).entries x e he

/-- Vacuity: the hypotheses of `C11_partial` are met by a non-trivial history (a flood over the
    chain 0-1-2 with a duplicate, no expiry, no third-party replay) in which agent 1 does process
    the announcement exactly once although it is delivered twice. -/
def dupOps : List Op := [.connect 0 1, .connect 1 2, .announce 0 [], .dup 0 1 0, .deliver 0 1 0, .deliver 1 2 0]

example : benignRun (init 3 0 exitAt0) dupOps = true := by decide
example : ∀ op, op ∈ dupOps → expires 1 (0, 2) op = false := by decide
example : processed 1 (0, 2) (init 3 0 exitAt0) dupOps = 1 := by decide
example : Effective (run (init 3 0 exitAt0) [.connect 0 1, .announce 0 []]) 0 1 0 := by decide

end MM.C11

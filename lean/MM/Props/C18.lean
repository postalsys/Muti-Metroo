/-
  C18 — Half-close and close behave per protocol for every frame sequence.

  "Data that arrives before or together with the remote end-of-write signal is delivered to the
   reader before end-of-stream. After the local side half-closes, further writes are refused while
   reads continue. A close or reset tears down only the addressed stream, and the stream states move
   only along the documented transitions."

  Model: MM/Model/C18.lean — an LTS over the atomic steps of internal/stream/manager.go
  (`ff = false`: the repaired statement order of HandleStreamData).  The theorems quantify over
  every reachable state, i.e. over every frame sequence and every interleaving of the frame handler,
  a reader and the local side.
-/
import MM.Lemmas.C18
import MM.Lemmas.Assoc
import MM.Gen.C18
import MM.Gen.LockC18
import MM.Gen.LockC18m

namespace MM.C18
variable {α : Type}

/-- `cap(readBuffer)` in the source is the capacity the model uses (T-gen tie). -/
theorem cap_tie : Gen.C18.readBufferCap = cap := by decide

/-! ### atomic-step tie (facts regenerated from internal/stream/manager.go by tools/lockshape.go)

  The LTS takes as atomic steps: `CloseWrite` as ONE critical section; in `HandleRemoteFinWrite` the
  flag update (`finMark`) and the state read-and-update (`finState`) each inside a critical section of
  `mu`; `Close`'s state change under `mu`.  These theorems say exactly that about the source. -/

def lockOf (l : List (String × String × String)) (m callee : String) : List String :=
  (l.filter (fun c => c.1 == m && c.2.1 == callee)).map (·.2.2)

/-- Every `State()` / `SetState()` call inside `CloseWrite`, `HandleRemoteFinWrite` and `Close` is
    made while `mu` is write-locked — and each of the calls the model relies on is really there. -/
theorem C18_lock_state_transitions :
    (Gen.LockC18.calls.all (fun c => !(c.2.1 == "State" || c.2.1 == "SetState") || c.2.2 == "W")) = true ∧
    lockOf Gen.LockC18.calls "Stream.CloseWrite" "State" = ["W"] ∧
    lockOf Gen.LockC18.calls "Stream.CloseWrite" "SetState" = ["W"] ∧
    lockOf Gen.LockC18.calls "Stream.HandleRemoteFinWrite" "State" = ["W"] ∧
    lockOf Gen.LockC18.calls "Stream.HandleRemoteFinWrite" "SetState" = ["W"] ∧
    lockOf Gen.LockC18.calls "Stream.Close" "SetState" = ["W"] := by decide +kernel

/-- Every access to `localFinWrite` / `remoteFinWrite` happens under the write lock. -/
theorem C18_lock_fin_flags :
    (Gen.LockC18.accesses.all (fun a =>
      !(a.2.1 == "localFinWrite" || a.2.1 == "remoteFinWrite") || a.2.2.2 == "W")) = true ∧
    (Gen.LockC18.accesses.any (fun a => a.1 == "Stream.CloseWrite" && a.2.1 == "localFinWrite" && a.2.2.1)) = true ∧
    (Gen.LockC18.accesses.any (fun a => a.1 == "Stream.HandleRemoteFinWrite" && a.2.1 == "remoteFinWrite" && a.2.2.1)) = true := by
  decide +kernel

def regionsOf (m item : String) : List Nat :=
  (Gen.LockC18.regions.filter (fun r => r.1 == m && r.2.1 == item)).map (·.2.2)

/-- In method `m` the items `a` and `b` each occur in exactly one lock region, the same for both, and
    it is not region 0 (= no lock held). -/
def sameOneRegion (m a b : String) : Bool :=
  regionsOf m a == regionsOf m b && (regionsOf m a).length == 1 && (regionsOf m a).all (· != 0)

/-- The state a transition is computed from is read in the SAME critical section in which the new
    state is written (`finState` and `CloseWrite` are read-modify-write steps of the model): in
    `HandleRemoteFinWrite` and in `CloseWrite` the `State()` call and the `SetState()` call lie in one
    and the same lock region.  (A variant that reads the state in an earlier region and writes it in a
    later one — both under the lock — passes `C18_lock_state_transitions` but not this.) -/
theorem C18_lock_state_rmw_one_region :
    sameOneRegion "Stream.HandleRemoteFinWrite" "call:State" "call:SetState" = true ∧
    sameOneRegion "Stream.CloseWrite" "call:State" "call:SetState" = true ∧
    sameOneRegion "Stream.CloseWrite" "localFinWrite:w" "call:SetState" = true := by decide +kernel

/-- `CloseWrite` is a single critical section (one lock acquisition). -/
theorem C18_lock_closewrite_once : Gen.LockC18.acquisitions.lookup "Stream.CloseWrite" = some 1 := by decide +kernel

def mgrLock (m callee : String) : List String :=
  (Gen.LockC18m.othercalls.filter (fun c => c.1 == m && c.2.1 == callee)).map (·.2.2)

/-- The manager never calls into a stream while it holds the table lock `m.mu`: `PushData` can block
    (full read buffer) and `Close` / callbacks can take time; holding the table lock there would stall
    every other stream.  The model's frame handler holds no manager-wide lock while a push is pending
    (the per-stream LTS steps of different streams are independent, `C18_close_targets_one`). -/
theorem C18_lock_manager_calls_streams_unlocked :
    mgrLock "Manager.HandleStreamData" "PushData" = ["none"] ∧
    mgrLock "Manager.HandleStreamData" "HandleRemoteFinWrite" = ["none"] ∧
    mgrLock "Manager.RemoveStream" "Close" = ["none"] ∧
    mgrLock "Manager.HandleStreamReset" "Close" = ["none"] ∧
    (Gen.LockC18m.accesses.all (fun a => !(a.2.1 == "onStreamData" || a.2.1 == "onStreamClose") || a.2.2.2 == "none")) = true := by
  decide +kernel

/-- **A blocked push is released by a close.**  With the read buffer full the handler's push step is not
    enabled (`PushData` blocks); once the stream's `closed` channel is closed the push aborts with
    `io.EOF` (`hAbort`) — the frame loop cannot stay stuck on a stream that is being torn down. -/
theorem C18_blocked_push_released_by_close {ff : Bool} (x : Sys α) (p : α) (t : List (Micro α))
    (ht : x.todo = .pushEnq p :: t) (hfull : cap ≤ x.s.buf.length) :
    step ff x .hStep = none ∧
      (x.s.closed = true → ∃ y, step ff x .hAbort = some y ∧ y.todo = [] ∧ y.dropped = true) :=
  ⟨by simp [step, stepMicro, ht, Nat.not_lt.mpr hfull], fun hc => ⟨_, step_iff.2 (.abort ht hc), rfl, rfl⟩⟩

/-- **Data before EOF.**  In every reachable state of the repaired code: if `Read` has returned
    end-of-stream while the stream had not been closed/reset (`closed = false` at that moment), then
    a FIN frame had reached the stream and every non-empty payload that reached the stream before or
    together with that first FIN (`a`) had already been returned by `Read`, in order (`a` is a prefix
    of the chunks delivered before the EOF). -/
theorem C18_data_before_eof {x : Sys α} (h : Reachable false x) (d : List α)
    (he : x.eof = some (d, false)) :
    ∃ a, x.arrivedAtFin = some a ∧ a <+: d :=
  (inv2_reachable h).eofOk d he

/-- The T-diff engine delivers frames one op at a time by appending them to `frames`; this theorem
    keeps every engine state inside `Reachable`. -/
theorem C18_frames_may_arrive_later {ff : Bool} {x : Sys α} (h : Reachable ff x) (fs : List (Frame α)) :
    Reachable ff { x with frames := x.frames ++ fs } := by
  induction h with
  | init acc fr =>
    have : { init acc fr with frames := (init acc fr).frames ++ fs } = init acc (fr ++ fs) := by cases acc <;> rfl
    exact this ▸ .init _ _
  | step l _ hs ih => exact .step l ih ((Step.of_step hs).step_ext fs)

/-- Nothing is ever skipped or reordered by the reader (either statement order). -/
theorem C18_fifo {ff : Bool} {x : Sys α} (h : Reachable ff x) :
    x.pushed = x.delivered ++ x.s.buf :=
  (inv1_reachable h).queue

/-- The pinned statement order (FIN signalled before the payload is queued) loses the chunk that
    arrives together with FIN: a parked reader returns EOF with nothing delivered. -/
theorem C18_finfirst_loses_data :
    ∃ x : Sys Nat, Reachable true x ∧ x.arrivedAtFin = some [7] ∧ x.eof = some ([], false) := by
  refine ⟨_, run_reachable (x := init true [Frame.data true (some 7)])
    [.rStart, .hNext, .hStep, .hStep, .rSelFin, .rDrain] (Reachable.init _ _) rfl, ?_, ?_⟩ <;> rfl

/-- The same schedule on the repaired order cannot produce an EOF: the reader is still parked. -/
example : (run false (init true [Frame.data true (some 7)])
    [.rStart, .hNext, .hStep, .hStep, .rSelFin, .rDrain] : Option (Sys Nat)).isNone = true := by decide

/-- Hypotheses of `C18_data_before_eof` are satisfiable (non-vacuity): data+FIN to a parked reader,
    reader gets the chunk and then EOF. -/
example : ∃ x : Sys Nat, Reachable false x ∧ x.eof = some ([7], false) ∧ x.arrivedAtFin = some [7] := by
  refine ⟨_, run_reachable (x := init true [Frame.data true (some 7)])
    [.rStart, .hNext, .hStep, .hStep, .rSelData, .hStep, .hStep, .hStep, .rStart, .rSelFin, .rDrain]
    (Reachable.init _ _) rfl, ?_, ?_⟩ <;> rfl

/-- **Write refused after local FIN** (either order, every interleaving): once `CloseWrite` has run,
    `CanWrite()` is false — which is what `meshConn.Write` checks before sending. -/
theorem C18_write_refused_after_local_fin {ff : Bool} {x : Sys α} (h : Reachable ff x)
    (hl : x.s.localFin = true) : x.s.canWrite = false := by
  rcases (inv1_reachable h).lfin hl with hs | hs <;> simp [Stream.canWrite, hs]

/-- … while reads continue: a local half-close does not disable `Read` (buffered data is returned). -/
theorem C18_read_after_local_fin {ff : Bool} (x : Sys α) (c : α) (b : List α)
    (hr : x.rpc = .idle) (hb : x.s.buf = c :: b) :
    step ff x .rStart = some (deliver x c b) :=
  step_iff.2 (.deliver (.inl ⟨rfl, hr⟩) hb)

example : ∃ x : Sys Nat, Reachable false x ∧ x.s.localFin = true ∧ x.s.state = .hcl :=
  ⟨_, run_reachable (x := init true []) [.lCloseWrite] (Reachable.init _ _) rfl, rfl, rfl⟩

/-- **Race outcomes** (what the `race` stress op of the engine checks on the real code): a FIN frame
    handled concurrently with a local `CloseWrite` (resp. `Close`), under EVERY placement of the local
    call among the handler's sub-steps, ends in CLOSED with writes refused. -/
theorem C18_race_serializable :
    (∀ k, k ≤ 4 →
      ((run false (init true [Frame.data true (none : Option Nat)])
          ((([.hNext, .hStep, .hStep, .hStep] : List Label).take k) ++ [.lCloseWrite] ++
            (([.hNext, .hStep, .hStep, .hStep] : List Label).drop k))).map
        (fun x => (x.s.state, x.s.canWrite, x.s.localFin, x.s.remoteFin))) = some (St.closed, false, true, true)) ∧
    (∀ k, k ≤ 4 →
      ((run false (init true [Frame.data true (none : Option Nat)])
          ((([.hNext, .hStep, .hStep, .hStep] : List Label).take k) ++ [.lClose, .closeEnd] ++
            (([.hNext, .hStep, .hStep, .hStep] : List Label).drop k))).map
        (fun x => (x.s.state, x.s.canWrite, x.s.closed, x.s.remoteFin))) = some (St.closed, false, true, true)) := by
  constructor <;> decide +kernel

/-- **Only documented state edges.**  Every atomic step of every thread moves `state` along an edge
    of Architecture.md section 7.1 (or leaves it unchanged). -/
theorem C18_transitions {ff : Bool} {x y : Sys α} (l : Label) (h : step ff x l = some y) :
    edge x.s.state y.s.state = true := by
  cases step_iff.1 h with
  | finState => exact edge_finState _
  | closeWrite => exact edge_closeWrite _
  | closeB | close => exact edge_closeBegin _
  | ack ho => exact ho ▸ rfl
  | _ => exact edge_refl _

/-- `edge` really excludes something: a closed stream never re-opens, a half-closed one never
    returns to open. -/
example : edge .closed .open_ = false ∧ edge .hcl .open_ = false ∧ edge .hcr .hcl = false :=
  ⟨rfl, rfl, rfl⟩

/-- **A close or reset tears down only the addressed stream.**  Any operation dispatched through the
    manager to stream `id` (frames, close, reset, local calls — `Mgr.upd`) leaves the record of every
    other stream id untouched. -/
theorem C18_close_targets_one (m : Mgr α) (id id' : Nat) (f : Sys α → Sys α) (hne : id' ≠ id) :
    (m.upd id f).get id' = m.get id' := by
  unfold Mgr.upd
  split
  · exact Assoc.lookup_set_ne m _ hne
  · rfl

example : ((Mgr.upd ([(1, ({} : Sys Nat)), (3, {})] : Mgr Nat) 1
    (fun x => { x with s := x.s.closeBegin })).get 3).map (·.s.state) = some St.open_ := rfl

end MM.C18

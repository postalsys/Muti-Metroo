/-
  C05 — Wire codecs are lossless and total.

  "Encoding any protocol message whose fields are within their wire limits, then decoding it,
   gives back the same message.  Decoding arbitrary bytes either fails cleanly or yields a message
   that re-encodes to an equivalent message.  It never crashes or allocates memory out of
   proportion to the input."

  Model: MM/Model/C05.lean + MM/Model/C05Comb.lean (tied to /repo/internal/protocol/frame.go by
  T-diff on every kind, constants by T-gen).  `c.wf m` is the executable "fields within their
  wire limits" predicate of a codec (`< 256^k` for k-byte integers and length/count prefixes,
  exact size for ids/keys/signatures, address/prefix length matching its type byte).
  Totality: every decoder is a total function returning `Option`; absence of Go panics is a
  T-diff obligation (spec tag `crashed-*`).
  Only property theorems live here; helpers are in MM/Lemmas/C05*.lean.
-/
import MM.Lemmas.C05Big
import MM.Gen.C05

namespace MM.C05

/-- constants of the model are the ones in the source (T-gen tie). -/
theorem constants_tie :
    Gen.C05.headerSize = headerSize ∧ Gen.C05.maxPayloadSize = maxPayload ∧
    Gen.C05.maxFrameSize = headerSize + maxPayload ∧
    Gen.C05.ephemeralKeySize = 32 ∧ Gen.C05.signatureSize = 64 ∧ Gen.C05.idSize = 16 ∧
    Gen.C05.maxPeersInNodeInfo = maxPeers ∧ Gen.C05.maxForwardListenersInNodeInfo = maxFls ∧
    Gen.C05.maxShellsInNodeInfo = maxShells ∧
    Gen.C05.addrTypeIPv4 = 1 ∧ Gen.C05.addrTypeIPv6 = 4 ∧ Gen.C05.addrTypeDomain = 3 ∧
    Gen.C05.addrFamilyIPv4 = 1 ∧ Gen.C05.addrFamilyIPv6 = 2 ∧ Gen.C05.addrFamilyDomain = 3 ∧
    Gen.C05.addrFamilyForward = 4 ∧ Gen.C05.addrFamilyAgent = 5 := by decide

/-- Go `unsafe.Sizeof` of the element types whose `make` length comes from the wire equals what
    the allocation traces of the model use (T-gen tie). -/
theorem sizes_tie :
    Gen.C05.sizeofRoute = sizeofRoute ∧ Gen.C05.sizeofPeerInfo = sizeofPeerInfo ∧
    Gen.C05.sizeofListenerInfo = sizeofListenerInfo ∧ Gen.C05.sizeofString = sizeofString ∧
    Gen.C05.sizeofRouteAdvertise = sizeofRouteAdvertise ∧
    Gen.C05.sizeofRouteWithdraw = sizeofRouteWithdraw ∧
    Gen.C05.sizeofNodeInfoAdvertise = sizeofNodeInfoAdvertise ∧ Gen.C05.sizeofAgentID = 16 := by
  decide

/-! ### generic shape of the two statements -/

theorem roundtrip_of {c : Codec α} {k : Nat} (hs : c.Sound) (hm : c.MinLen k) (m : α)
    (h : c.wf m = true) : decodeTop k c (c.enc m) = some m :=
  decodeTop_roundtrip hs k m h (hm m h)

theorem reencode_of {c : Codec α} {k : Nat} (hs : c.Sound) (hw : c.DecWF) (hm : c.MinLen k)
    (bs : Bytes) (m : α) (h : decodeTop k c bs = some m) : decodeTop k c (c.enc m) = some m :=
  roundtrip_of hs hm m (decodeTop_wf hw k bs m h)

/-! ### frame header -/

theorem header_length (h : Nat × Nat × Nat × Nat) : (headerC.enc h).length = headerSize := by
  simp [headerC, headerSize]

/-- `Decode(Encode(f)) = f` for every frame whose fields fit, also with trailing bytes after the
    frame. -/
theorem Frame_roundtrip (t fl sid : Nat) (p extra : Bytes) (ht : t < 256) (hfl : fl < 256)
    (hsid : sid < 2 ^ 64) (hp : p.length ≤ maxPayload) :
    ∃ b, encodeFrame (t, fl, sid, p) = .ok b ∧ decodeFrame (b ++ extra) = .ok (t, fl, sid, p) := by
  have hmp : maxPayload = 16384 := rfl
  have hwf : headerC.wf (t, fl, p.length, sid) = true := by
    simp only [headerC, seq_wf, be_wf]; omega
  refine ⟨headerC.enc (t, fl, p.length, sid) ++ p, if_neg (Nat.not_lt.mpr hp), ?_⟩
  unfold decodeFrame
  rw [List.append_assoc, decodeHeader_enc _ _ hwf, if_neg (Nat.not_lt.mpr hp)]
  dsimp only
  rw [if_neg (by rw [List.length_append, header_length, List.length_append]; omega),
    List.drop_left' (header_length _), List.take_left' rfl]

/-- `Frame.Encode` refuses payloads over MaxPayloadSize. -/
theorem Frame_encode_tooLarge (t fl sid : Nat) (p : Bytes) (hp : p.length > maxPayload) :
    encodeFrame (t, fl, sid, p) = .error .tooLarge :=
  if_pos hp

/-- Whatever `Decode` accepts has a payload of at most MaxPayloadSize bytes, taken from inside
    the buffer. -/
theorem Frame_decode_le (buf : Bytes) (f : Frame) (h : decodeFrame buf = .ok f) :
    f.2.2.2.length ≤ maxPayload ∧ headerSize + f.2.2.2.length ≤ buf.length := by
  unfold decodeFrame at h
  split at h
  · cases h
  next t fl len sid hh =>
  have : len ≤ maxPayload := decodeHeader_ok hh
  split at h
  · cases h
  cases h
  simp only [List.length_take, List.length_drop]
  omega

/-- A header announcing more than MaxPayloadSize bytes is rejected with ErrFrameTooLarge by the
    header check alone (Go's `Decode` copies the payload only after `DecodeHeader` returned). -/
theorem Frame_header_tooLarge (t fl len sid : Nat) (rest : Bytes) (ht : t < 256) (hfl : fl < 256)
    (hlen : len < 2 ^ 32) (hsid : sid < 2 ^ 64) (hbig : len > maxPayload) :
    decodeHeader (headerC.enc (t, fl, len, sid) ++ rest) = .error .tooLarge := by
  rw [decodeHeader_enc _ _ (by simp only [headerC, seq_wf, be_wf]; omega), if_pos hbig]

example : ∃ b, encodeFrame (4, 1, 77, [1, 2, 3]) = .ok b ∧ decodeFrame (b ++ [9]) = .ok (4, 1, 77, [1, 2, 3]) :=
  Frame_roundtrip 4 1 77 [1, 2, 3] [9] (by decide) (by decide) (by decide) (by decide)

/-! ### payload kinds built by composition: `K_roundtrip` and `K_reencode` -/

theorem PeerHello_roundtrip (m) (h : peerHelloC.wf m = true) :
    decodePeerHello (peerHelloC.enc m) = some m :=
  peerHello_lawful.roundtrip m h
theorem PeerHello_reencode (bs m) (h : decodePeerHello bs = some m) :
    decodePeerHello (peerHelloC.enc m) = some m :=
  peerHello_lawful.reencode bs m h

/-- StreamOpen and UDPOpen (same layout). -/
theorem StreamOpen_roundtrip (m) (h : streamOpenC.wf m = true) :
    decodeStreamOpen (streamOpenC.enc m) = some m :=
  streamOpen_lawful.roundtrip m h
theorem StreamOpen_reencode (bs m) (h : decodeStreamOpen bs = some m) :
    decodeStreamOpen (streamOpenC.enc m) = some m :=
  streamOpen_lawful.reencode bs m h

/-- StreamOpenAck and UDPOpenAck (same layout). -/
theorem StreamOpenAck_roundtrip (m) (h : streamOpenAckC.wf m = true) :
    decodeStreamOpenAck (streamOpenAckC.enc m) = some m :=
  streamOpenAck_lawful.roundtrip m h
theorem StreamOpenAck_reencode (bs m) (h : decodeStreamOpenAck bs = some m) :
    decodeStreamOpenAck (streamOpenAckC.enc m) = some m :=
  streamOpenAck_lawful.reencode bs m h

/-- StreamOpenErr, UDPOpenErr, ICMPOpenErr (same layout; message ≤ 255 bytes is part of `wf`). -/
theorem StreamOpenErr_roundtrip (m) (h : streamOpenErrC.wf m = true) :
    decodeStreamOpenErr (streamOpenErrC.enc m) = some m :=
  roundtrip_of (preEnc_sound _ streamOpenErrBody_lawful.sound)
    (preEnc_minLen _ streamOpenErrBody_lawful.minLen) m h
theorem StreamOpenErr_reencode (bs m) (h : decodeStreamOpenErr bs = some m) :
    decodeStreamOpenErr (streamOpenErrC.enc m) = some m :=
  StreamOpenErr_roundtrip m (decodeTop_wf streamOpenErr_decwf 11 bs m h)

theorem StreamReset_roundtrip (m) (h : streamResetC.wf m = true) :
    decodeStreamReset (streamResetC.enc m) = some m :=
  streamReset_lawful.roundtrip m h
theorem StreamReset_reencode (bs m) (h : decodeStreamReset bs = some m) :
    decodeStreamReset (streamResetC.enc m) = some m :=
  streamReset_lawful.reencode bs m h

theorem Keepalive_roundtrip (m) (h : keepaliveC.wf m = true) :
    decodeKeepalive (keepaliveC.enc m) = some m :=
  keepalive_lawful.roundtrip m h
theorem Keepalive_reencode (bs m) (h : decodeKeepalive bs = some m) :
    decodeKeepalive (keepaliveC.enc m) = some m :=
  keepalive_lawful.reencode bs m h

/-- UDPClose, ICMPClose. -/
theorem Close_roundtrip (m) (h : closeC.wf m = true) : decodeClose (closeC.enc m) = some m :=
  close_lawful.roundtrip m h
theorem Close_reencode (bs m) (h : decodeClose bs = some m) : decodeClose (closeC.enc m) = some m :=
  close_lawful.reencode bs m h

theorem RouteAdvertise_roundtrip (m) (h : routeAdvertiseC.wf m = true) :
    decodeRouteAdvertise (routeAdvertiseC.enc m) = some m :=
  routeAdvertise_lawful.roundtrip m h
theorem RouteAdvertise_reencode (bs m) (h : decodeRouteAdvertise bs = some m) :
    decodeRouteAdvertise (routeAdvertiseC.enc m) = some m :=
  routeAdvertise_lawful.reencode bs m h

theorem RouteWithdraw_roundtrip (m) (h : routeWithdrawC.wf m = true) :
    decodeRouteWithdraw (routeWithdrawC.enc m) = some m :=
  routeWithdraw_lawful.roundtrip m h
theorem RouteWithdraw_reencode (bs m) (h : decodeRouteWithdraw bs = some m) :
    decodeRouteWithdraw (routeWithdrawC.enc m) = some m :=
  routeWithdraw_lawful.reencode bs m h

theorem EncryptedData_roundtrip (m) (h : (seq bool (lp 2)).wf m = true) :
    decodeEncryptedData ((seq bool (lp 2)).enc m) = some m :=
  encData_lawful.roundtrip m h
theorem EncryptedData_reencode (bs m) (h : decodeEncryptedData bs = some m) :
    decodeEncryptedData ((seq bool (lp 2)).enc m) = some m :=
  encData_lawful.reencode bs m h

theorem Path_roundtrip (m) (h : ids.wf m = true) : decodePath (ids.enc m) = some m :=
  ids_lawful.roundtrip m h
theorem Path_reencode (bs m) (h : decodePath bs = some m) : decodePath (ids.enc m) = some m :=
  ids_lawful.reencode bs m h

theorem ControlRequest_roundtrip (m) (h : controlRequestC.wf m = true) :
    decodeControlRequest (controlRequestC.enc m) = some m :=
  controlRequest_lawful.roundtrip m h
theorem ControlRequest_reencode (bs m) (h : decodeControlRequest bs = some m) :
    decodeControlRequest (controlRequestC.enc m) = some m :=
  controlRequest_lawful.reencode bs m h

/-- ControlResponse: data ≤ MaxPayloadSize − 12 is part of `wf` (the encoder clips longer data). -/
theorem ControlResponse_roundtrip (m) (h : controlResponseC.wf m = true) :
    decodeControlResponse (controlResponseC.enc m) = some m :=
  roundtrip_of (preEnc_sound _ controlResponseBody_lawful.sound)
    (preEnc_minLen _ controlResponseBody_lawful.minLen) m h
/-- The decoder takes a 16-bit data length while the encoder clips at MaxPayloadSize − 12, so the
    re-encode statement holds for every input up to the frame payload size (the quantifier of
    C05), not for longer buffers. -/
theorem ControlResponse_reencode (bs m) (hlen : bs.length ≤ maxPayload)
    (h : decodeControlResponse bs = some m) :
    decodeControlResponse (controlResponseC.enc m) = some m :=
  have ⟨_, r, hd⟩ := decodeTop_some.mp h
  ControlResponse_roundtrip m (controlResponse_decwf_bounded bs m r hlen hd)

/-- minimum length 6 = type(1) + domain length byte(1) + port(2) + dataLen(2): every accepted
    address type has a non-empty address. -/
theorem UDPDatagram_roundtrip (m) (h : udpDatagramC.wf m = true) :
    decodeUDPDatagram (udpDatagramC.enc m) = some m :=
  udpDatagram_lawful.roundtrip m h
theorem UDPDatagram_reencode (bs m) (h : decodeUDPDatagram bs = some m) :
    decodeUDPDatagram (udpDatagramC.enc m) = some m :=
  udpDatagram_lawful.reencode bs m h

theorem ICMPOpen_roundtrip (m) (h : icmpOpenC.wf m = true) :
    decodeICMPOpen (icmpOpenC.enc m) = some m :=
  icmpOpen_lawful.roundtrip m h
theorem ICMPOpen_reencode (bs m) (h : decodeICMPOpen bs = some m) :
    decodeICMPOpen (icmpOpenC.enc m) = some m :=
  icmpOpen_lawful.reencode bs m h

theorem ICMPOpenAck_roundtrip (m) (h : icmpOpenAckC.wf m = true) :
    decodeICMPOpenAck (icmpOpenAckC.enc m) = some m :=
  icmpOpenAck_lawful.roundtrip m h
theorem ICMPOpenAck_reencode (bs m) (h : decodeICMPOpenAck bs = some m) :
    decodeICMPOpenAck (icmpOpenAckC.enc m) = some m :=
  icmpOpenAck_lawful.reencode bs m h

theorem ICMPEcho_roundtrip (m) (h : icmpEchoC.wf m = true) :
    decodeICMPEcho (icmpEchoC.enc m) = some m :=
  icmpEcho_lawful.roundtrip m h
theorem ICMPEcho_reencode (bs m) (h : decodeICMPEcho bs = some m) :
    decodeICMPEcho (icmpEchoC.enc m) = some m :=
  icmpEcho_lawful.reencode bs m h

/-- SleepCommand and WakeCommand (same layout). -/
theorem SleepWake_roundtrip (m) (h : sleepC.wf m = true) : decodeCmd (sleepC.enc m) = some m :=
  sleep_lawful.roundtrip m h
theorem SleepWake_reencode (bs m) (h : decodeCmd bs = some m) : decodeCmd (sleepC.enc m) = some m :=
  sleep_lawful.reencode bs m h

theorem NodeInfoAdvertise_roundtrip (m) (h : nodeInfoAdvertiseC.wf m = true) :
    decodeNodeInfoAdvertise (nodeInfoAdvertiseC.enc m) = some m :=
  nodeInfoAdvertise_lawful.roundtrip m h
theorem NodeInfoAdvertise_reencode (bs m) (h : decodeNodeInfoAdvertise bs = some m) :
    decodeNodeInfoAdvertise (nodeInfoAdvertiseC.enc m) = some m :=
  nodeInfoAdvertise_lawful.reencode bs m h

/-! vacuity: concrete non-trivial messages satisfy `wf` -/

example : peerHelloC.wf (1, List.replicate 16 7, 1700000000, [97, 98], [[113, 117, 105, 99], []]) = true := by
  decide
example : streamOpenC.wf ((5, 3, [3, 97, 98, 99]), 443, 16, [List.replicate 16 1], List.replicate 32 9) = true := by
  decide
example : streamOpenAckC.wf ((5, 0, []), 0, List.replicate 32 9) = true := by decide
example : routeAdvertiseC.wf (List.replicate 16 1, [110], 3,
    [(((1, 8), [10, 0, 0, 0]), 1), (((3, 0), [1, 120]), 2), (((4, 0), [1, 107, 1, 116]), 0)],
    (false, [0]), [List.replicate 16 1]) = true := by decide
example : sleepC.wf (List.replicate 16 1, 7, 1000, List.replicate 64 0, [List.replicate 16 2]) = true := by
  decide

/-! ### QueuedState (fixed decoder: offset 97 + 16·|SeenBy|, capped pre-allocation) -/

/-- **QueuedState round trip**, including BOTH optional commands, signed or not: the defect of
    the pinned decoder (offset 33 + 16n) lost the wake command whenever a sleep command was
    present. -/
theorem QueuedState_roundtrip (q : QueuedState) (h : queuedStateWF q = true) :
    decodeQueuedState (encodeQueuedState q) = some q := by
  obtain ⟨routes, withdraws, nodeInfos, sleep, wake⟩ := q
  simp only [queuedStateWF, Bool.and_eq_true, decide_eq_true_eq] at h
  obtain ⟨⟨⟨⟨⟨⟨⟨hrl, hr⟩, hwl⟩, hw⟩, hnl⟩, hn⟩, hs⟩, hk⟩ := h
  have hlen : ¬ (encodeQueuedState ⟨routes, withdraws, nodeInfos, sleep, wake⟩).length < 8 := by
    have := encOptCmd_pos sleep
    have := encOptCmd_pos wake
    simp only [encodeQueuedState, encBlobs, List.length_append, beN_length]
    omega
  unfold decodeQueuedState decodeQueuedStateWith decodeRouteAdvertise decodeRouteWithdraw
    decodeNodeInfoAdvertise
  rw [if_neg hlen]
  simp only [encodeQueuedState, List.append_assoc, u16_dec_encBlobs _ _ _ hrl,
    u16_dec_encBlobs _ _ _ hwl, u16_dec_encBlobs _ _ _ hnl,
    routeAdvertise_lawful.blobList_sound _ _ hr, routeWithdraw_lawful.blobList_sound _ _ hw,
    nodeInfoAdvertise_lawful.blobList_sound _ _ hn]
  -- the two commands: a present one decodes from its encoding whatever follows, and the decoder
  -- skips exactly its encoded length
  have hcmd : ∀ c rest, sleepC.wf c = true → decodeCmd (sleepC.enc c ++ rest) = some c :=
    fun c rest hc => decodeTop_append sleep_lawful.sound cmdMinLen c rest hc (sleep_lawful.minLen c hc)
  cases sleep with
  | none =>
    cases wake with
    | none => rfl
    | some w => simp [encOptCmd, SleepWake_roundtrip w hk]
  | some c =>
    have hdrop : ∀ rest, (sleepC.enc c ++ rest).drop (97 + 16 * c.2.2.2.2.length) = rest :=
      fun rest => List.drop_left' (cmd_enc_length c hs)
    cases wake with
    | none => simp [encOptCmd, hcmd c _ hs, hdrop]
    | some w => simp [encOptCmd, hcmd c _ hs, hdrop, SleepWake_roundtrip w hk]

/-- a state with an unsigned sleep command and a wake command -/
def offsetWitness : QueuedState :=
  let c : Cmd := (List.replicate 16 1, 7, 1000, List.replicate 64 0, [])
  { routes := [], withdraws := [], nodeInfos := [], sleep := some c, wake := some c }

/-- The pinned decoder (skip 33 + 16·|SeenBy| past the sleep command) on the encoding of
    `offsetWitness`: the wake command is lost.  With 97 it is kept (`QueuedState_roundtrip`). -/
theorem QueuedState_offset33_refuted :
    queuedStateWF offsetWitness = true ∧
    ((decodeQueuedStateWith 33 (encodeQueuedState offsetWitness)).map fun q => q.wake.isSome) = some false ∧
    ((decodeQueuedStateWith 97 (encodeQueuedState offsetWitness)).map fun q => q.wake.isSome) = some true := by
  decide +kernel

/-- **Bounded allocation of the count-driven reservations**: for ANY input the three
    `make(_, 0, n)` calls of `DecodeQueuedState` together reserve at most 3·(len/2) elements
    (the pinned code reserved up to 65535 elements from an 8-byte input). -/
theorem QueuedState_prealloc_le (bs : Bytes) : queuedPrealloc bs ≤ 3 * (bs.length / 2) := by
  -- a reservation is capped by half of what is left, which is at most half of the input
  have cap : ∀ {b r : Bytes} {n : Nat}, u16.dec b = some (n, r) → b.length ≤ bs.length →
      min n (r.length / 2) ≤ bs.length / 2 ∧ r.length ≤ bs.length := fun h hb =>
    have hr := Nat.le_trans (be_lawful.shrinks _ _ _ h) hb
    ⟨Nat.le_trans (Nat.min_le_right ..) (Nat.div_le_div_right hr), hr⟩
  unfold queuedPrealloc
  dsimp only
  split
  · exact Nat.zero_le _
  next rc r0 h0 =>
  obtain ⟨c1, l0⟩ := cap h0 (Nat.le_refl _)
  refine Nat.le_trans (Nat.add_le_add c1 (?_ : _ ≤ 2 * (bs.length / 2))) (by omega)
  split
  · exact Nat.zero_le _
  next _ r1 h1 =>
  have l1 := Nat.le_trans (blobList_shrinks _ _ _ _ _ h1) l0
  split
  · exact Nat.zero_le _
  next wc r2 h2 =>
  obtain ⟨c2, l2⟩ := cap h2 l1
  refine Nat.le_trans (Nat.add_le_add c2 (?_ : _ ≤ bs.length / 2)) (by omega)
  split
  · exact Nat.zero_le _
  next _ r3 h3 =>
  split
  · exact Nat.zero_le _
  next nc r4 h4 => exact (cap h4 (Nat.le_trans (blobList_shrinks _ _ _ _ _ h3) l2)).1

example : queuedPrealloc [0xff, 0xff, 0, 0, 0, 0, 0, 0] = 3 := by decide

/-! ### NodeInfo (strict head, peer list and key; optional tail) -/

/-- **NodeInfo round trip** for every NodeInfo within the wire limits (strings ≤ 255 bytes,
    ≤ 255 addresses, ≤ 50 peers, ≤ 20 listeners, ≤ 10 shells, 32-byte key). -/
theorem NodeInfo_roundtrip (n : NodeInfo) (h : nodeInfoWF n = true) :
    decodeNodeInfo (encodeNodeInfo n) = some n := by
  obtain ⟨name, host, os, arch, ver, start, ips, peers, pub, udp, fls, shells, ft, sh, icmp⟩ := n
  simp only [nodeInfoWF, Bool.and_eq_true, decide_eq_true_eq] at h
  obtain ⟨⟨⟨⟨⟨⟨⟨hhead, hpl⟩, hpw⟩, hkey⟩, hfl⟩, hfw⟩, hsl⟩, hsw⟩ := h
  have hmin := niHead_lawful.minLen _ hhead
  -- the encoding, right-nested; nothing is clipped.  `tail` (what follows the key) stays folded
  -- while the strict part is read, so that the length test and the rewrites see a short term
  obtain ⟨tail, htail⟩ : ∃ tail, tail = bool.enc udp ++ (beN 1 fls.length ++ (encAll flC fls ++
      (beN 1 shells.length ++ (encAll str shells ++ (bool.enc ft ++ (bool.enc sh ++ (bool.enc icmp ++ []))))))) :=
    ⟨_, rfl⟩
  have henc : encodeNodeInfo ⟨name, host, os, arch, ver, start, ips, peers, pub, udp, fls, shells, ft, sh, icmp⟩ =
      niHeadC.enc (name, host, os, arch, ver, start, ips) ++ (beN 1 peers.length ++ (encAll peerC peers ++
        (key32.enc pub ++ tail))) := by
    simp only [htail, encodeNodeInfo, List.take_of_length_le hpl, List.take_of_length_le hfl,
      List.take_of_length_le hsl, List.append_assoc, List.append_nil]
  unfold decodeNodeInfo
  rw [henc, if_neg (by simp only [List.length_append, bytesN_enc, bytesN_wf.mp hkey]; omega)]
  -- every read finds what was written: the strict part through the codecs,
  simp only [niHead_lawful.sound _ _ hhead,
    show ∀ r, u8.dec (beN 1 peers.length ++ r) = _ from
      fun r => be_lawful.sound peers.length r (be_wf.mpr (Nat.lt_of_le_of_lt hpl (by decide))),
    Nat.min_eq_left hpl, repDec_sound peer_lawful.sound peers _ hpw, bytesN_lawful.sound pub _ hkey]
  -- then the optional tail, whose counts are single bytes
  have hf : fls.length < 256 := Nat.lt_of_le_of_lt hfl (by decide)
  have hs : shells.length < 256 := Nat.lt_of_le_of_lt hsl (by decide)
  simp only [htail, optBool_enc, beN1 hf, beN1 hs, List.cons_append, List.nil_append,
    UInt8.toNat_ofNat_of_lt hf, UInt8.toNat_ofNat_of_lt hs, Nat.min_eq_left hfl, Nat.min_eq_left hsl,
    flLoop_sound fls _ hfw, shLoop_sound shells _ hsw, Bool.false_eq_true, if_false]

example : nodeInfoWF ⟨[97], [], [108], [], [49], 5, [[49, 46, 50]], [(List.replicate 16 3, [113], 12, true)],
    List.replicate 32 9, true, [([107], [58, 56])], [[115, 104]], false, true, false⟩ = true := by
  decide

/-- Whatever `DecodeNodeInfo` accepts is within the wire limits (so it re-encodes and decodes to
    the same NodeInfo, `NodeInfo_reencode`). -/
theorem NodeInfo_decode_wf (bs : Bytes) (n : NodeInfo) (h : decodeNodeInfo bs = some n) :
    nodeInfoWF n = true := by
  -- head, peers and key are parsed by codecs; the lists of the optional tail come from the two
  -- loops (run at most `min count max` times) or are empty
  have base : ∀ (m : NodeInfo) {r0 pc r1 r2 r3} (kf ks : Nat),
      niHeadC.dec bs = some ((m.name, m.host, m.os, m.arch, m.ver, m.start, m.ips), r0) →
      repDec peerC (min pc maxPeers) r1 = some (m.peers, r2) → key32.dec r2 = some (m.pub, r3) →
      (m.fls.length ≤ min kf maxFls ∧ m.fls.all flC.wf = true) →
      (m.shells.length ≤ min ks maxShells ∧ m.shells.all str.wf = true) → nodeInfoWF m = true := by
    intro m r0 pc r1 r2 r3 kf ks hh hp hk hf hs
    have hpw := repDec_some peer_lawful.decwf peer_lawful.lenExact hp
    simp only [nodeInfoWF, niHead_lawful.decwf _ _ _ hh, hpw.1, hpw.2.1, bytesN_lawful.decwf _ _ _ hk,
      Nat.min_le_right, Nat.le_trans hf.1 (Nat.min_le_right ..), hf.2,
      Nat.le_trans hs.1 (Nat.min_le_right ..), hs.2, decide_true, Bool.and_self]
  revert h
  fun_cases decodeNodeInfo bs
  -- case1–5: the strict part fails.  The input ends after the UDP flag (case6); the listener loop
  -- fails (7) or the input ends after it (8); the shell loop fails (9) or everything is read (10)
  case case6 =>
    exact fun h => Option.some.inj h ▸ base _ 0 0 ‹_› ‹_› ‹_› ⟨Nat.zero_le _, rfl⟩ ⟨Nat.zero_le _, rfl⟩
  case case7 | case8 =>
    exact fun h => Option.some.inj h ▸ base _ _ 0 ‹_› ‹_› ‹_› (flLoop_wf ‹_›) ⟨Nat.zero_le _, rfl⟩
  case case9 | case10 =>
    exact fun h => Option.some.inj h ▸ base _ _ _ ‹_› ‹_› ‹_› (flLoop_wf ‹_›) (shLoop_wf ‹_›)
  all_goals exact nofun

theorem NodeInfo_reencode (bs : Bytes) (n : NodeInfo) (h : decodeNodeInfo bs = some n) :
    decodeNodeInfo (encodeNodeInfo n) = some n :=
  NodeInfo_roundtrip n (NodeInfo_decode_wf bs n h)

/-- Whatever `DecodeQueuedState` accepts is within the wire limits: every kept item is well-formed
    and re-encodes into a blob that fits its 2-byte length. -/
theorem QueuedState_decode_wf (bs : Bytes) (q : QueuedState) (h : decodeQueuedState bs = some q) :
    queuedStateWF q = true := by
  have hcmd : ∀ (b : Bytes) (c : Cmd), decodeCmd b = some c → sleepC.wf c = true :=
    fun b c hd => decodeTop_wf sleep_lawful.decwf cmdMinLen b c hd
  have hopt : ∀ o : Option Cmd, (∀ c, o = some c → sleepC.wf c = true) →
      (match o with | some c => sleepC.wf c | none => true) = true := by
    intro o ho
    cases o with
    | none => rfl
    | some c => exact ho c rfl
  have hu16 : ∀ (b : Bytes) (n : Nat) (r : Bytes), u16.dec b = some (n, r) → n < 65536 :=
    fun b n r hd => be_wf.mp (be_lawful.decwf _ _ _ hd)
  revert h
  unfold decodeQueuedState
  fun_cases decodeQueuedStateWith 97 bs
  -- case10 is the only branch that returns `some`
  case case10 _ rc r0 h0 routes r1 h1 wc r2 h2 withdraws r3 h3 nc r4 h4 nodeInfos sf r6 sleep wf r8 wake h5 hs =>
    intro h
    cases h
    obtain ⟨a1, b1⟩ := routeAdvertise_lawful.blobList_wf _ _ _ _ h1
    obtain ⟨a2, b2⟩ := routeWithdraw_lawful.blobList_wf _ _ _ _ h3
    obtain ⟨a3, b3⟩ := nodeInfoAdvertise_lawful.blobList_wf _ _ _ _ h5
    have l1 := hu16 _ _ _ h0
    have l2 := hu16 _ _ _ h2
    have l3 := hu16 _ _ _ h4
    simp only [queuedStateWF, a1, a2, a3, Bool.and_eq_true, decide_eq_true_eq, and_true]
    refine ⟨⟨⟨⟨Nat.lt_of_le_of_lt b1 l1, Nat.lt_of_le_of_lt b2 l2⟩, Nat.lt_of_le_of_lt b3 l3⟩,
      hopt _ fun c hc => ?_⟩, hopt _ fun c hc => ?_⟩
    · -- `sleep = some c` only where the flag is set and `decodeCmd` accepted `c`
      subst hc
      split at hs
      · split at hs
        · next hd =>
          cases (Prod.mk.inj hs).1
          exact hcmd _ _ hd
        · cases (Prod.mk.inj hs).1
      · cases (Prod.mk.inj hs).1
    · simp only [wake] at hc
      split at hc
      · exact hcmd _ _ hc
      · cases hc
  all_goals exact fun h => nomatch h

theorem QueuedState_reencode (bs : Bytes) (q : QueuedState) (h : decodeQueuedState bs = some q) :
    decodeQueuedState (encodeQueuedState q) = some q :=
  QueuedState_roundtrip q (QueuedState_decode_wf bs q h)

/-! ### `K_alloc_le`: allocation in proportion to the input, for ANY input

  `c.alloc bs` is the trace of every `make` / `readBytes` / string conversion whose size the Go
  decoder takes from the wire (count or length fields), successful or not.  For each kind it is at
  most `A·len + K`, `K` being the 1-byte-count reservations (≤ 255 elements each).  The measured
  heap growth of the real decoders (op `alloc`, bound 1024·len + 65536) is the tie. -/

theorem PeerHello_alloc_le (bs : Bytes) : decodeTopAlloc 28 peerHelloC bs ≤ 1 * bs.length + 4080 :=
  decodeTopAlloc_le peerHello_lawful.alloc 28 bs
theorem StreamOpen_alloc_le (bs : Bytes) : decodeTopAlloc 45 streamOpenC bs ≤ 1 * bs.length + 4080 :=
  decodeTopAlloc_le streamOpen_lawful.alloc 45 bs
theorem StreamOpenAck_alloc_le (bs : Bytes) : decodeTopAlloc 43 streamOpenAckC bs ≤ 1 * bs.length + 0 :=
  decodeTopAlloc_le streamOpenAck_lawful.alloc 43 bs
theorem StreamOpenErr_alloc_le (bs : Bytes) : decodeTopAlloc 11 streamOpenErrC bs ≤ 1 * bs.length + 0 :=
  decodeTopAlloc_le (preEnc_alloc _ streamOpenErrBody_lawful.alloc) 11 bs
theorem RouteAdvertise_alloc_le (bs : Bytes) : routeAdvertiseAlloc bs ≤ 2 * bs.length + 18360 :=
  decodeTopAlloc_le routeAdvertise_lawful.alloc 28 bs
theorem RouteWithdraw_alloc_le (bs : Bytes) : routeWithdrawAlloc bs ≤ 1 * bs.length + 14280 :=
  decodeTopAlloc_le routeWithdraw_lawful.alloc 26 bs
theorem EncryptedData_alloc_le (bs : Bytes) : decodeTopAlloc 3 (seq bool (lp 2)) bs ≤ 1 * bs.length + 0 :=
  decodeTopAlloc_le encData_lawful.alloc 3 bs
theorem Path_alloc_le (bs : Bytes) : decodeTopAlloc 1 ids bs ≤ 1 * bs.length + 16 * 255 :=
  decodeTopAlloc_le ids_lawful.alloc 1 bs
theorem NodeInfo_alloc_le (bs : Bytes) : nodeInfoAlloc bs ≤ 3 * bs.length + 7280 :=
  nodeInfoAlloc_le bs
theorem NodeInfoAdvertise_alloc_le (bs : Bytes) : nodeInfoAdvertiseAlloc bs ≤ 4 * bs.length + 11360 :=
  decodeTopAlloc_le nodeInfoAdvertise_lawful.alloc 28 bs
theorem ControlRequest_alloc_le (bs : Bytes) : decodeTopAlloc 30 controlRequestC bs ≤ 1 * bs.length + 4080 :=
  decodeTopAlloc_le controlRequest_lawful.alloc 30 bs
theorem ControlResponse_alloc_le (bs : Bytes) : decodeTopAlloc 12 controlResponseC bs ≤ 1 * bs.length + 0 :=
  decodeTopAlloc_le (preEnc_alloc _ controlResponseBody_lawful.alloc) 12 bs
theorem UDPDatagram_alloc_le (bs : Bytes) : decodeTopAlloc 6 udpDatagramC bs ≤ 1 * bs.length + 0 :=
  decodeTopAlloc_le udpDatagram_lawful.alloc 6 bs
theorem ICMPOpen_alloc_le (bs : Bytes) : decodeTopAlloc 43 icmpOpenC bs ≤ 1 * bs.length + 4080 :=
  decodeTopAlloc_le icmpOpen_lawful.alloc 43 bs
theorem ICMPOpenAck_alloc_le (bs : Bytes) : decodeTopAlloc 40 icmpOpenAckC bs ≤ 1 * bs.length + 0 :=
  decodeTopAlloc_le icmpOpenAck_lawful.alloc 40 bs
theorem ICMPEcho_alloc_le (bs : Bytes) : decodeTopAlloc 8 icmpEchoC bs ≤ 1 * bs.length + 0 :=
  decodeTopAlloc_le icmpEcho_lawful.alloc 8 bs
theorem SleepWake_alloc_le (bs : Bytes) : cmdAlloc bs ≤ 1 * bs.length + 4080 :=
  decodeTopAlloc_le sleep_lawful.alloc cmdMinLen bs
/-- QueuedState, fixed decoder: the three capped reservations, every nested advertisement /
    withdrawal / node-info decode and both commands together. -/
theorem QueuedState_alloc_le (bs : Bytes) : queuedAlloc bs ≤ 941 * bs.length + 8160 := by
  -- the two commands: the sleep decoder on everything after its flag, the wake decoder on a suffix
  have tail : ∀ r6 : Bytes, cmdAlloc r6 + (16 * 255 + r6.length) ≤ 701 * (r6.length + 1) + 8160 := by
    intro r6
    have := decodeTopAlloc_le sleep_lawful.alloc cmdMinLen r6
    unfold cmdAlloc
    omega
  unfold queuedAlloc
  split
  · exact Nat.zero_le _
  split
  · exact Nat.zero_le _
  next rc r0 h0 =>
  -- per input byte: 700 for what a blob's nested decoder allocates (`decodeTopAlloc_linear`), 1 for
  -- its copy, and half an element size for each reservation: 701 + 144 + 36 + 60 = 941
  have s1 := stage_alloc_le decodeRouteAdvertise (L := 700)
    (decodeTopAlloc_linear routeAdvertise_lawful.alloc 28 (by decide) (by decide))
    (s := sizeofRouteAdvertise) (h := 60) (C := 881) (by decide) (by decide) h0
  -- what follows the list is charged to the bytes it leaves (none if it does not parse)
  refine charge_rest s1 ?_
  split
  · exact Nat.zero_le _
  next r1 h1 =>
  rw [h1]
  split
  · exact Nat.zero_le _
  next wc r2 h2 =>
  have s2 := stage_alloc_le decodeRouteWithdraw (L := 700)
    (decodeTopAlloc_linear routeWithdraw_lawful.alloc 26 (by decide) (by decide))
    (s := sizeofRouteWithdraw) (h := 36) (C := 845) (by decide) (by decide) h2
  refine charge_rest s2 ?_
  split
  · exact Nat.zero_le _
  next r3 h3 =>
  rw [h3]
  split
  · exact Nat.zero_le _
  next nc r4 h4 =>
  have s3 := stage_alloc_le decodeNodeInfoAdvertise (L := 700)
    (decodeTopAlloc_linear nodeInfoAdvertise_lawful.alloc 28 (by decide) (by decide))
    (s := sizeofNodeInfoAdvertise) (h := 144) (C := 701) (by decide) (by decide) h4
  refine charge_rest s3 ?_
  split
  · exact Nat.zero_le _
  next r5 h5 =>
  rw [h5]
  split
  · exact Nat.zero_le _
  next sf r6 => exact tail r6

/-- a 28-byte input announcing 255 routes makes the decoder reserve 255 `Route`s: the constant `K` is real -/
example : routeAdvertiseAlloc (List.replicate 16 0 ++ [0] ++ List.replicate 8 0 ++ [255, 1, 32]) = 16 + 40 * 255 := by
  decide

end MM.C05

/-
  C23 — SOCKS5 request handling is robust and dials exactly what was asked.

  "For any byte stream a client sends, the SOCKS5 handler never crashes, and every reply it
   writes is well formed.  A successful CONNECT dials exactly the IPv4 address, IPv6 address or
   domain name and port encoded in the request.  Unsupported commands or address types get the
   corresponding error reply."

  Model: MM/Model/C23.lean — `handle env input = (messages written, action)`, total on every
  input (so "never crashes" is: the real handler agrees with this total function on every
  generated stream and never panics — checked by the differential run).  `env` carries every
  answer the handler gets from its environment; all theorems hold for every `env`.
-/
import MM.Lemmas.C23
import MM.Lemmas.C23Render

namespace MM.C23

/-- Every message the handler writes — for ANY client byte stream and any environment whose
    addresses are nil/IPv4/IPv6 — is a method selection, an RFC 1929 status or a complete
    SOCKS5 reply with an IPv4 or IPv6 bound address. -/
theorem C23_reply_wf (env : Env) (henv : env.addrsOk) (inp : Bytes) :
    ∀ m ∈ (handle env inp).replies, wfMsg m = true := by
  have h1 := authenticate_wf (newHandlerAuths env.auths) inp
  rw [← List.all_eq_true]
  unfold handle
  dsimp only
  split
  · exact h1
  · rw [List.all_append, h1, requestPhase_wf env henv]
    rfl

/-- The handler as the agent builds it when authentication is off: only "no authentication". -/
def noAuthHandler (env : Env) : Prop := newHandlerAuths env.auths = [.noAuth]

theorem handle_noAuth (env : Env) (hna : noAuthHandler env) (methods : Bytes)
    (hl : methods.length < 256) (h0 : (0 : UInt8) ∈ methods) (q : Bytes) :
    handle env (encodeGreeting methods ++ q) =
      ⟨[0x05, 0x00] :: (requestPhase env q).replies, (requestPhase env q).action, none⟩ := by
  have := authenticate_take [.noAuth] methods q hl ((encodeGreeting methods).length + q.length)
  simp only [List.take_length_add_append, List.take_length, Nat.le_add_right, if_true,
    Nat.add_sub_cancel_left, selectPhase, selectAuth_noAuth h0] at this
  unfold handle
  rw [hna, this]
  rfl

/-- Which bytes of the stream the parser takes: a request that encodes `(cmd, d, port)` is read
    back as exactly `(cmd, d, port)`, whatever the reserved byte and whatever follows. -/
theorem C23_request_bytes (cmd rsv : UInt8) (d : Dest) (hd : d.wf) (port : Nat) (hp : port < 65536)
    (rest : Bytes) : readRequest (encodeRequest cmd rsv d port ++ rest) = .ok cmd d port := by
  simpa [List.take_length_add_append, Nat.mod_eq_of_lt hp] using
    readRequest_take cmd rsv d hd port rest ((encodeRequest cmd rsv d port).length + rest.length)

/-- CONNECT with destination `d` (IPv4, IPv6 or domain) and port `port`, whatever follows it on
    the stream and whatever the reserved byte: the handler dials exactly
    `JoinHostPort(render d, port)` — and nothing else. -/
theorem C23_dial_exact (env : Env) (hna : noAuthHandler env) (methods : Bytes)
    (hl : methods.length < 256) (h0 : (0 : UInt8) ∈ methods)
    (rsv : UInt8) (d : Dest) (hd : d.wf) (port : Nat) (hp : port < 65536) (rest : Bytes) :
    (handle env (encodeGreeting methods ++ (encodeRequest 0x01 rsv d port ++ rest))).action =
      .dial (joinHostPort d.render port) := by
  rw [handle_noAuth env hna methods hl h0,
    requestPhase_ok (C23_request_bytes 0x01 rsv d hd port hp rest)]
  unfold dispatch
  rw [if_pos rfl]
  fun_cases handleConnect env d port <;> rfl

/-- An unsupported command (anything but CONNECT / UDP ASSOCIATE / ICMP ECHO) with a well-formed
    address: the last message is a reply with code 0x07 and nothing is done. -/
theorem C23_bad_cmd (env : Env) (hna : noAuthHandler env) (methods : Bytes)
    (hl : methods.length < 256) (h0 : (0 : UInt8) ∈ methods)
    (cmd rsv : UInt8) (hc : cmd ≠ 0x01 ∧ cmd ≠ 0x03 ∧ cmd ≠ 0x04)
    (d : Dest) (hd : d.wf) (port : Nat) (hp : port < 65536) (rest : Bytes) :
    let r := handle env (encodeGreeting methods ++ (encodeRequest cmd rsv d port ++ rest))
    r.action = .none ∧ r.replies = [[0x05, 0x00], mkReply 0x07 [] 0] ∧
      replyCode (mkReply 0x07 [] 0) = 0x07 := by
  dsimp only
  rw [handle_noAuth env hna methods hl h0,
    requestPhase_ok (C23_request_bytes cmd rsv d hd port hp rest)]
  unfold dispatch
  rw [if_neg hc.1, if_neg hc.2.1, if_neg hc.2.2]
  exact ⟨rfl, rfl, rfl⟩

/-- An unsupported address type, whatever the command and whatever follows: the last message is
    a reply with code 0x08 and nothing is done. -/
theorem C23_bad_atyp (env : Env) (hna : noAuthHandler env) (methods : Bytes)
    (hl : methods.length < 256) (h0 : (0 : UInt8) ∈ methods)
    (cmd rsv atyp : UInt8) (ha : atyp ≠ 0x01 ∧ atyp ≠ 0x03 ∧ atyp ≠ 0x04) (rest : Bytes) :
    let r := handle env (encodeGreeting methods ++ ([0x05, cmd, rsv, atyp] ++ rest))
    r.action = .none ∧ r.replies = [[0x05, 0x00], mkReply 0x08 [] 0] ∧
      replyCode (mkReply 0x08 [] 0) = 0x08 := by
  dsimp only
  rw [handle_noAuth env hna methods hl h0,
    requestPhase_err (readRequest_badAtyp cmd rsv atyp ha rest)]
  exact ⟨rfl, rfl, rfl⟩

/-- Truncation at EVERY position: any strict prefix of a valid `greeting ++ request` stream makes
    the handler do nothing (no dial, no association), for every command and address type. -/
theorem C23_truncated (env : Env) (hna : noAuthHandler env) (methods : Bytes)
    (hl : methods.length < 256) (h0 : (0 : UInt8) ∈ methods)
    (cmd rsv : UInt8) (d : Dest) (hd : d.wf) (port : Nat)
    (k : Nat) (hk : k < (encodeGreeting methods ++ encodeRequest cmd rsv d port).length) :
    (handle env ((encodeGreeting methods ++ encodeRequest cmd rsv d port).take k)).action = .none := by
  by_cases hg : (encodeGreeting methods).length ≤ k
  · rw [List.length_append] at hk
    rw [List.take_append, List.take_of_length_le hg, handle_noAuth env hna methods hl h0,
      requestPhase_err (rs := [])]
    -- left is the premise of `requestPhase_err`: the request is cut short
    rw [← List.append_nil (encodeRequest cmd rsv d port), readRequest_take cmd rsv d hd port [],
      if_neg (by omega)]
  · unfold handle
    rw [authenticate_take _ _ _ hl, if_neg hg]

/-! ### "exactly": the dial string determines the address and port that were asked for -/

/-- The host an IP destination denotes: an IPv4-mapped IPv6 address IS its IPv4 address
    (`net.IP.String` prints it in dotted form and every dialer treats the two alike). -/
def Dest.canon : Dest → Dest
  | .v6 b => if is4in6 b then .v4 (b.drop 12) else .v6 b
  | d => d

def Dest.isIP : Dest → Bool
  | .dom _ => false
  | _ => true

theorem canon_spec (d : Dest) (hd : d.wf) (hi : d.isIP = true) :
    d.canon.render = d.render ∧
      ((∃ a, d.canon = .v4 a ∧ a.length = 4) ∨ (∃ b, d.canon = .v6 b ∧ b.length = 16 ∧ is4in6 b = false)) := by
  cases d with
  | dom _ => cases hi
  | v4 a => exact ⟨rfl, .inl ⟨a, rfl, hd⟩⟩
  | v6 b =>
    have hb : b.length = 16 := hd
    by_cases hm : is4in6 b = true
    · exact ⟨by simp [Dest.canon, Dest.render, renderV6, hm],
        .inl ⟨b.drop 12, by simp [Dest.canon, hm], by simp [hb]⟩⟩
    · exact ⟨by simp [Dest.canon, hm], .inr ⟨b, by simp [Dest.canon, hm], hb, by simpa using hm⟩⟩

/-- **`render` is injective on IP destinations** (IPv4; IPv6 in RFC 5952 text with every zero-run
    shape; IPv4-mapped forms): two requests whose addresses are rendered to the same text denote
    the same host.  A domain is rendered as its raw bytes (`Dest.render (.dom s) = s`), so it is
    trivially injective among domains; a domain collides with an IP destination exactly when its
    bytes ARE that address's canonical text. -/
theorem C23_render_injective (d d' : Dest) (hd : d.wf) (hd' : d'.wf)
    (hi : d.isIP = true) (hi' : d'.isIP = true) (e : d.render = d'.render) : d.canon = d'.canon := by
  obtain ⟨r, hc⟩ := canon_spec d hd hi
  obtain ⟨r', hc'⟩ := canon_spec d' hd' hi'
  rw [← r, ← r'] at e
  have hcolon := fun a => renderV4_notMem notDigit_colon (by decide) a
  rcases hc with ⟨a, c, ha⟩ | ⟨b, c, hb, hm⟩ <;> rcases hc' with ⟨a', c', ha'⟩ | ⟨b', c', hb', hm'⟩
  all_goals
    rw [c, c'] at e ⊢
    simp only [Dest.render] at e
  · rw [renderV4_injective ha ha' e]
  · exact absurd (e ▸ renderV6_has_colon hm') (hcolon a)
  · exact absurd (e ▸ renderV6_has_colon hm) (hcolon a')
  · rw [renderV6_injective hb hb' hm hm' e]

/-- The dial string determines the rendered host AND the port: no two different (host text, port)
    pairs are dialled alike (`net.JoinHostPort` is injective, brackets included). -/
theorem C23_dial_string_injective (h h' : Bytes) (p p' : Nat)
    (e : joinHostPort h p = joinHostPort h' p') : h = h' ∧ p = p' :=
  joinHostPort_injective e

theorem render_notMem {x : UInt8} (hx : notDigit x) (hd : x ≠ dot) (hc : x ≠ colon) (d : Dest)
    (hi : d.isIP = true) : x ∉ d.render := by
  cases d with
  | dom _ => cases hi
  | v4 b => exact renderV4_notMem hx hd b
  | v6 b => exact renderV6_notMem hx hd hc b

/-- What a dialer that parses the string with `net.SplitHostPort` (Agent.DialContext, net.Dial)
    gets back for an IP destination: exactly the rendered address and the port's decimal text. -/
theorem C23_dialer_parses_ip (d : Dest) (hi : d.isIP = true) (p : Nat) :
    splitHostPort (joinHostPort d.render p) = .ok d.render (decimal p) :=
  split_join _ ⟨render_notMem notDigit_lbracket (by decide) (by decide) d hi,
    render_notMem notDigit_rbracket (by decide) (by decide) d hi⟩ p

/-- … and for a domain without square brackets (colons allowed): exactly the domain's bytes. -/
theorem C23_dialer_parses_domain (s : Bytes) (hb : bracketFree s) (p : Nat) :
    splitHostPort (joinHostPort s p) = .ok s (decimal p) := split_join s hb p

/-- Where the parse is NOT the identity (observation, no defect of the handler: the handler passes
    the requested bytes on verbatim): a colon-free domain of the shape `[x]` loses its brackets in
    `net.SplitHostPort`, e.g. the "domain" `[1.2.3.4]` port 80 is dialled as host `1.2.3.4`; other
    bracket-carrying names make `SplitHostPort` fail.  The same client could have asked for `x`. -/
example : splitHostPort (joinHostPort [0x5b, 0x31, 0x2e, 0x32, 0x2e, 0x33, 0x2e, 0x34, 0x5d] 80) =
    .ok [0x31, 0x2e, 0x32, 0x2e, 0x33, 0x2e, 0x34] [0x38, 0x30] := by decide
example : splitHostPort (joinHostPort [0x5b, 0x3a, 0x3a, 0x31, 0x5d] 80) = .err := by decide   -- "[::1]" as a domain
example : splitHostPort (joinHostPort [0x61, 0x5d, 0x3a, 0x31, 0x5b, 0x62] 80) = .err := by decide -- "a]:1[b"

/-! ### the hypotheses are satisfiable; concrete instances -/

def exampleEnv : Env := ⟨[], .ok [10, 0, 0, 7] 40000, false, .absent, .absent, [127, 0, 0, 1]⟩

example : noAuthHandler exampleEnv := rfl
example : exampleEnv.addrsOk := ⟨Or.inr (Or.inl rfl), Or.inr (Or.inl rfl)⟩

/-- CONNECT 2001:db8::1 port 443 → dial "[2001:db8::1]:443"; reply 10.0.0.7:40000. -/
example :
    let r := handle exampleEnv ([5, 1, 0] ++ [5, 1, 0, 4, 0x20, 0x01, 0x0d, 0xb8, 0, 0, 0, 0, 0, 0, 0, 0, 0, 0, 0, 1, 0x01, 0xbb])
    r.action = .dial [0x5b, 0x32, 0x30, 0x30, 0x31, 0x3a, 0x64, 0x62, 0x38, 0x3a, 0x3a, 0x31, 0x5d, 0x3a, 0x34, 0x34, 0x33] ∧
    r.replies = [[5, 0], [5, 0, 0, 1, 10, 0, 0, 7, 0x9c, 0x40]] := by decide +kernel

/-- The same stream cut one byte short: nothing happens. -/
example :
    (handle exampleEnv ([5, 1, 0] ++ [5, 1, 0, 4, 0x20, 0x01, 0x0d, 0xb8, 0, 0, 0, 0, 0, 0, 0, 0, 0, 0, 0, 1, 0x01])).action = .none := by
  decide

example : (Dest.dom [0x61, 0x2e, 0x62]).wf := by decide

end MM.C23

/-
  C26 — File transfer and browsing stay inside the allowed paths.

  "Every file or directory that file transfer or remote browsing reads, writes, creates, lists,
   chmods or deletes lies inside the configured allowed paths, after symbolic links are resolved.
   With no allowed paths configured, nothing is touched."

  Model: MM/Model/C26.lean (validatePath and its helpers byte for byte, filepath.Clean / Match, and
  the filesystem calls of each operation on the filesystem model of MM/Model/C27.lean).

  The pinned code VIOLATES the statement (open finding C26-symlinked-path-component in
  known/C26.json): the path is validated lexically, the kernel resolves symbolic links.  Hence:
    * `C26_statement` is the full statement, `C26_refuted` its refutation from a concrete witness
      (a symbolic link as a PARENT component of a download);
    * what does hold: `C26_empty_allows_nothing` / `C26_empty_touches_nothing`, `C26_lexical`,
      `C26_prefix_componentwise`, `C26_glob_ancestor` (every accepted path is lexically inside an
      allowed pattern), `C26_partial` with `C26_partial_upload` / `C26_partial_delete_recursive`
      (no symbolic link on the requested path ⇒ the operation touches exactly the validated path
      or its hard links; an upload also the parents it creates, a recursive delete what lies below
      it) and `C26_password_required`.
-/
import MM.Lemmas.C26

namespace MM.C26
open MM.C27

/-- What an accepted path satisfies, lexically. -/
theorem C26_lexical (nfc : Bytes → Bytes) (c : Cfg) (path : Bytes) (h : validatePath nfc c path = .ok) :
    dangerous path = false ∧ isAbs (normalize nfc path) = true ∧
    hasInfix [DOT, DOT] (normalize nfc path) = false ∧ c.allowed ≠ [] ∧
    ∃ pat ∈ c.allowed, pat = [0x2a] ∨ pathAllowed nfc (normalize nfc path) pat = true := by
  revert h
  -- the five refusals in the order of the code, the fifth after acceptance
  fun_cases validatePath nfc c path
  · nofun
  · nofun
  · nofun
  · nofun
  · rename_i hd _ ha ht hl hany
    obtain ⟨pat, hm, hp⟩ := List.any_eq_true.mp hany
    exact fun _ => ⟨Bool.eq_false_iff.mpr hd, by simpa using ha, Bool.eq_false_iff.mpr ht, fun he => hl (by rw [he]; rfl),
      pat, hm, by simpa using hp⟩
  · nofun

/-- With no allowed paths configured nothing passes validation. -/
theorem C26_empty_allows_nothing (nfc : Bytes → Bytes) (c : Cfg) (path : Bytes) (h : c.allowed = []) :
    validatePath nfc c path ≠ .ok :=
  fun hv => (C26_lexical nfc c path hv).2.2.2.1 h

/-- With no allowed paths configured no operation touches anything or changes the filesystem. -/
theorem C26_empty_touches_nothing (x : Ctx) (nfc : Bytes → Bytes) (fu : Nat) (c : Cfg) (fs : FS) (op : Op)
    (path : Bytes) (h : c.allowed = []) :
    (runOp x nfc fu c fs op path).touched = [] ∧ (runOp x nfc fu c fs op path).fs = fs := by
  rcases runOp_cases x nfc fu c fs op path with ⟨e, he⟩ | ⟨-, hv, -⟩
  · rw [he]; exact ⟨rfl, rfl⟩
  · exact absurd hv (C26_empty_allows_nothing nfc c path h)

/-- Prefix-form patterns (a plain directory, or `dir/**`) are matched component-wise: the components
    of the (clean) prefix are a prefix of the components of the (clean) path — "/var/wwwevil" is not
    under "/var/www". -/
theorem C26_prefix_componentwise (nfc : Bytes → Bytes) (path pre : Bytes)
    (h : underPrefix nfc path pre = true) (hns : hasSuffix [SL] (normalize nfc pre) = false) :
    splitOn SL (normalize nfc pre) <+: splitOn SL (normalize nfc path) := by
  unfold underPrefix at h
  simp only [hns, Bool.false_eq_true, if_false, Bool.or_eq_true, beq_iff_eq] at h
  rcases h with h | h
  · rw [h]; exact List.prefix_refl _
  · obtain ⟨rest, hr⟩ := List.isPrefixOf_iff_prefix.mp h
    rw [← hr, List.append_assoc, List.singleton_append, splitOn_append]
    exact List.prefix_append _ _

/-- A glob pattern accepts a path only if the path or one of its ancestors matches the glob. -/
theorem C26_glob_ancestor (nfc : Bytes → Bytes) (path pat : Bytes)
    (hg : globChars (normalize nfc pat) = true)
    (hs : hasSuffix [SL, 0x2a, 0x2a] (normalize nfc pat) = false)
    (h : pathAllowed nfc path pat = true) :
    ∃ k, matchOK (normalize nfc pat) (ancestor k path) = true := by
  unfold pathAllowed at h
  simp only [hs, Bool.false_eq_true, if_false, hg, if_true, Bool.or_eq_true] at h
  rcases h with h | h
  · exact ⟨0, h⟩
  · exact parentWalk_spec _ _ _ h

/-- physical path `q` is inside the configured allowed paths -/
def physAllowed (c : Cfg) (q : Path) : Prop := validatePath (fun b => b) c (strOfPath q) = .ok

def C26_statement : Prop :=
  ∀ (x : Ctx) (nfc : Bytes → Bytes) (fu : Nat) (c : Cfg) (fs : FS) (op : Op) (path : Bytes),
    ∀ q ∈ (runOp x nfc fu c fs op path).touched, physAllowed c q

/-- names: d = 356, l = 364, s = 371, k = 363 (`encName` of one-letter names) -/
def wFS : FS :=
  { ents := [([356], .dir), ([356, 364], .sym ⟨false, [0, 371]⟩), ([371], .dir), ([371, 363], .file 1)],
    data := [(1, 7)], next := 2 }
/-- allowed_paths = ["/d"] -/
def wCfg : Cfg := { enabled := true, allowed := [[0x2f, 0x64]] }
/-- "/d/l/k": lexically below /d; l -> ../s, so the kernel opens /s/k -/
def wPath : Bytes := [0x2f, 0x64, 0x2f, 0x6c, 0x2f, 0x6b]
/-- no password, no declared size; content sizes irrelevant (no size limit configured) -/
def wCtx : Ctx := { pwOK := fun _ _ => false, password := [], declSize := -1, sizeOf := fun _ => 0, trunc := fun c _ => c }

theorem C26_refuted : ¬ C26_statement := fun h =>
  absurd (h wCtx (fun b => b) 40 wCfg wFS .download wPath [371, 363] (by decide +kernel))
    (by unfold physAllowed; decide +kernel)

/-- `q` is the requested path itself, or another name (hard link) of the same file -/
def touchedOK (fs : FS) (p q : Path) : Prop :=
  q = p ∨ ∃ i, fs.lookup p = some (.file i) ∧ (q, Kind.file i) ∈ fs.ents

theorem aliases_ok {fs : FS} {p q : Path} (h : q ∈ aliases fs p) : touchedOK fs p q := by
  unfold aliases at h
  split at h
  · rename_i i hl
    obtain ⟨⟨q', k⟩, he, rfl⟩ := List.mem_map.mp h
    have hf := List.mem_filter.mp he
    exact .inr ⟨i, hl, (by simpa using hf.2 : k = .file i) ▸ hf.1⟩
  · exact .inl (List.mem_singleton.mp h)

/-- For a request whose path is already clean, has no ".." and no trailing slash, and none of
    whose components is a symbolic link, download / list / stat / chmod / non-recursive delete touch
    only the requested (validated) path, or hard links of it. -/
theorem C26_partial (x : Ctx) (nfc : Bytes → Bytes) (fu : Nat) (c : Cfg) (fs : FS) (op : Op) (path : Bytes)
    (hop : op = .download ∨ op = .list ∨ op = .stat ∨ op = .chmod ∨ op = .delete false)
    (hclean : clean path = path) (htr : trailingDir path = false)
    (hdd : NoDD (compsOf path)) (hclr : Clear fs (compsOf path) (compsOf path).length) :
    ∀ q ∈ (runOp x nfc fu c fs op path).touched, touchedOK fs (compsOf path) q := by
  have hst : ∀ {q k}, stat fs fu (compsOf path) = .found q k → q = compsOf path :=
    fun h => (walk_found h hdd hclr).1
  intro q hq
  have hq := runOp_touched hq
  rcases hop with rfl | rfl | rfl | rfl | rfl
  · obtain ⟨k, hs⟩ := opDownload_touched hq
    exact .inl (hst (hclean ▸ hs))
  · obtain ⟨k, hs⟩ := opList_touched hq
    exact .inl (hst (hclean ▸ hs))
  · rcases opStat_touched hq with ⟨k, hs⟩ | ⟨k, hs⟩
    · exact .inl (hst (hclean ▸ hs))
    · exact .inl (lstat_found_clear (hclean ▸ hs) hdd hclr).1
  · obtain ⟨q0, k, hs, hal⟩ := opChmod_touched hq
    exact aliases_ok (hst (hclean ▸ hs) ▸ hal)
  · obtain ⟨q0, k, hl, h⟩ := opDelete_touched hq
    obtain ⟨rfl, hk⟩ := lstat_found_clear (hclean ▸ hl) hdd hclr
    exact .inl ((h hk).resolve_right fun h => nomatch h.1)

/-- the filesystem is a tree (the invariant of MM/Lemmas/C27.lean with the root as "destination") -/
abbrev Tree (fs : FS) : Prop := Inv [] fs

/-- Upload of a file, same hypotheses (and the filesystem is a tree): what changes is the requested
    path itself (or hard links of it), plus parent directories of it that did not exist yet —
    prefixes of the requested path.  NOTE: those created ancestors need not lie inside the allowed
    paths themselves when the allowed path is deeper than the existing tree. -/
theorem C26_partial_upload (x : Ctx) (nfc : Bytes → Bytes) (fu : Nat) (c : Cfg) (fs : FS) (content : Nat)
    (path : Bytes) (hT : Tree fs) (hclean : clean path = path)
    (hdd : NoDD (compsOf path)) (hclr : Clear fs (compsOf path) (compsOf path).length) :
    ∀ q ∈ (runOp x nfc fu c fs (.upload content) path).touched,
      q <+: compsOf path ∨
      touchedOK (mkdirAll fs fu (compsOf path).dropLast).1 (compsOf path) q := by
  intro q hq
  -- `dispatch x nfc fu c fs (.upload content) path` reduces to this `opUpload` term
  have hq : q ∈ (opUpload x fu c fs path content).touched := runOp_touched hq
  have hQ := safe_mkdirAll (fu := fu) hT hdd.dropLast (clear_dropLast (hclr.le (Nat.sub_le _ _)))
    (.inr List.nil_prefix)
  have hclr1 := hclr.mono hQ.nosym
  have h := opUpload_touched hq
  rw [hclean] at h
  rcases h with h | ⟨q0, i, hs, hal⟩ | ⟨par, n, hs, rfl⟩
  · exact .inl (Decidable.byContradiction fun hnp =>
      changedKeys_mem h (hQ.frame q fun hp => hnp (hp.trans (List.dropLast_prefix _))))
  · obtain ⟨rfl, -⟩ := walk_found hs hdd hclr1
    exact .inr (aliases_ok hal)
  · rw [(walk_missing hs hdd hclr1).1]
    exact .inl (List.prefix_refl _)

/-- Recursive delete, same hypotheses: everything that disappears lies at or below the requested path. -/
theorem C26_partial_delete_recursive (x : Ctx) (nfc : Bytes → Bytes) (fu : Nat) (c : Cfg) (fs : FS)
    (path : Bytes) (hclean : clean path = path)
    (hdd : NoDD (compsOf path)) (hclr : Clear fs (compsOf path) (compsOf path).length) :
    ∀ q ∈ (runOp x nfc fu c fs (.delete true) path).touched, compsOf path <+: q := by
  intro q hq
  obtain ⟨q0, k, hl, h⟩ := opDelete_touched (runOp_touched hq)
  obtain ⟨rfl, hk⟩ := lstat_found_clear (hclean ▸ hl) hdd hclr
  rcases h hk with rfl | ⟨-, h⟩
  · exact List.prefix_refl _
  · exact removeAll_gone hl h

/-- With a password configured, a request that does not present it touches nothing. -/
theorem C26_password_required (x : Ctx) (nfc : Bytes → Bytes) (fu : Nat) (c : Cfg) (fs : FS) (op : Op)
    (path : Bytes) (hh : c.hash ≠ []) (hpw : x.password = [] ∨ x.pwOK c.hash x.password = false) :
    (runOp x nfc fu c fs op path).touched = [] ∧ (runOp x nfc fu c fs op path).fs = fs := by
  rcases runOp_cases x nfc fu c fs op path with ⟨e, he⟩ | ⟨ha, -, -⟩
  · rw [he]; exact ⟨rfl, rfl⟩
  · unfold authenticate at ha
    rw [if_neg hh] at ha
    rcases hpw with h | h
    · simp [h] at ha
    · split at ha
      · cases ha
      · simp [h] at ha

example : Tree wFS := invB_sound (by decide)

/-- "/d" itself: allowed, no symbolic link on it; listing it touches exactly /d. -/
example : (runOp wCtx (fun b => b) 40 wCfg wFS .list [0x2f, 0x64]).touched = [[356]] := by decide
example : validatePath (fun b => b) wCfg [0x2f, 0x64, 0x2f, 0x6c, 0x2f, 0x6b] = .ok := by decide
example : validatePath (fun b => b) wCfg [0x2f, 0x64, 0x64] = .notAllowed := by decide   -- "/dd" is not under "/d"
example : validatePath (fun b => b) wCfg [0x2f, 0x73, 0x2f, 0x6b] = .notAllowed := by decide   -- "/s/k"

end MM.C26

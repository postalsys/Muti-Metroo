import MM.Lemmas.C11

/-
  C12 — flooding converges to valid forwarding paths.

  Model = MM/Model/C11.lean.  Proved for every topology and every history without `disconnect` ops
  ("stable topology": links are only ever added, see `stableTopology`), third-party replays included:

  * `C12_path_is_chain`       every learned route's next hop is a current neighbour and the head of
                              its recorded path; consecutive agents of the path are linked; the path
                              ends at the origin.
  * `C12_open_reaches_origin` the STREAM_OPEN walk of `Agent.handleStreamOpen` along such a path
                              (structural recursion on the path) ends at the advertising agent.
  * `C12_holds`               both, for every stored route of every state reached by such a history.

  Convergence ("every agent learns every route") needs reliable delivery as a fairness hypothesis
  and fresh sequence numbers (see C14): it is proved in MM/Props/C12Conv.lean (`C12_converges`,
  `C12_converges_run`) and exercised on the real code by the clean cases of engine c12, which end
  with `dump converged` (executable statement: `convergeChecks`).
-/
namespace MM.C12
open MM.C11

/-! ### following a chain -/

theorem chainOK_mono {lk lk' : Node → Node → Bool} (h : ∀ a b, lk a b = true → lk' a b = true) :
    ∀ (cur : Node) (p : List Node), chainOK lk cur p = true → chainOK lk' cur p = true := by
  intro cur p
  induction p generalizing cur with
  | nil => intro _; rfl
  | cons y rest ih =>
    simp only [chainOK, Bool.and_eq_true]
    intro hc
    exact ⟨h _ _ hc.1, ih y hc.2⟩

/-- The walk of `handleStreamOpen` along a chain of links ends at the last agent of the path. -/
theorem openWalk_chain (lk : Node → Node → Bool) :
    ∀ (p : List Node) (cur o : Node), chainOK lk cur p = true → (cur :: p).getLast? = some o →
      openWalk lk cur p = some o := by
  intro p cur o hc hl
  -- along `openWalk`: path used up; the last hop names the agent itself; forward over a link; no link
  fun_induction openWalk lk cur p with
  | case1 cur => exact hl
  | case2 cur y rest h => rw [h.1, h.2] at hl; exact hl
  | case3 cur y rest _ _ ih =>
    exact ih (Bool.and_eq_true_iff.1 hc).2 ((List.getLast?_cons_cons ..).symm.trans hl)
  | case4 cur y rest _ hlk => exact absurd (Bool.and_eq_true_iff.1 hc).1 hlk

/-- What C12 asks of a learned route `e` stored at `x`. -/
def EntryOK (s : Net) (x : Node) (e : Entry) : Prop :=
  e.path.head? = some e.nextHop ∧ chainOK (linked s) x e.path = true ∧ e.path.getLast? = some e.origin

theorem C12_open_reaches_origin (s : Net) (x : Node) (e : Entry) (h : EntryOK s x e) :
    openRoute (linked s) x e = some e.origin := by
  obtain ⟨hh, hc, hl⟩ := h
  unfold openRoute
  cases hp : e.path with
  | nil => rw [hp] at hh; cases hh
  | cons nh tail =>
    rw [hp] at hh hc hl
    obtain rfl := Option.some.inj hh
    rw [if_pos (Bool.and_eq_true_iff.1 hc).1]
    exact openWalk_chain _ tail _ _ (Bool.and_eq_true_iff.1 hc).2 hl

/-! ### the invariant -/

def FrameOK (s : Net) (f : Flight) : Prop :=
  ∃ rest, f.adv.path = f.src :: rest ∧ chainOK (linked s) f.src rest = true ∧
    (f.src :: rest).getLast? = some f.adv.origin

/-- `flight` exempts frames without routes: nothing is stored from them, and `IsReplayed.path` does
    not tie the origin of a replayed one to its path. -/
structure Inv (s : Net) : Prop where
  sym : ∀ a b, linked s a b = true → linked s b a = true
  flight : ∀ f, f ∈ s.flight → linked s f.src f.dst = true ∧
    (f.adv.wd = false → f.adv.routes ≠ [] → FrameOK s f)
  entries : ∀ x e, e ∈ (s.nodes x).entries →
    (e.origin ≠ x → e.path ≠ []) ∧ (e.path ≠ [] → EntryOK s x e)

theorem inv_init (n mh : Nat) (L : Node → List RAd) : Inv (init n mh L) where
  sym := fun _ _ h => absurd h not_linked_initH
  flight := by intro f hf; cases hf
  entries := by
    intro x e he
    have hl := (initNode_entries he).1
    exact ⟨fun h => absurd hl.2.1 h, fun h => absurd hl.1 h⟩

theorem sym_step {s : Net} {op : Op} (hnd : ∀ c d, op ≠ .disconnect c d)
    (h : ∀ a b, linked s a b = true → linked s b a = true) :
    ∀ a b, linked (step s op) a b = true → linked (step s op) b a = true := by
  intro a b hab
  rcases linked_step_inv hab with h' | ⟨c, d, rfl, hc, hcd⟩
  · exact linked_step_mono hnd (h a b h')
  · -- `connect` adds the link in both directions
    exact linked_connect_iff.2
      (Or.inr ⟨hc, hcd.symm.imp (fun h => ⟨h.2, h.1⟩) (fun h => ⟨h.2, h.1⟩)⟩)

theorem inv_step {s : Net} {op : Op} (hnd : ∀ c d, op ≠ .disconnect c d) (hI : Inv s) : Inv (step s op) := by
  -- the clauses hold of the new frames and entries with the links of `s`; more links do no harm
  have up : ∀ cur p, chainOK (linked s) cur p = true → chainOK (linked (step s op)) cur p = true :=
    chainOK_mono (fun a b => linked_step_mono hnd)
  have hflight : ∀ f, f ∈ (step s op).flight → linked s f.src f.dst = true ∧
      (f.adv.wd = false → f.adv.routes ≠ [] → FrameOK s f) := by
    intro f hf
    cases flight_step hf with
    | old h => exact hI.flight f h
    | ann hl _ h => exact ⟨hl, fun _ _ => ⟨[], h.path, rfl, by rw [h.origin]; rfl⟩⟩
    | wdr _ _ hl _ h => rw [h.wd]; exact ⟨hl, nofun⟩
    | fwd a m hm hla hl hsb hrel hadv =>
      refine ⟨hl, ?_⟩
      rw [FrameOK, hadv, fwdAdv_wd, fwdAdv_origin]
      intro hw hr
      rw [fwdAdv_routes hw] at hr
      rw [fwdAdv_path hw]
      obtain ⟨rest, h1, h2, h3⟩ := (hI.flight _ hm).2 hw (fun h0 => hr (by rw [h0]; rfl))
      -- the path `a :: rest` of `m` is extended by the link `f.src — a`
      exact ⟨a :: rest, congrArg _ h1, Bool.and_eq_true_iff.2 ⟨hI.sym _ _ hla, h2⟩,
        (List.getLast?_cons_cons ..).trans h3⟩
    | rep _ _ hl _ hadv =>
      refine ⟨hl, fun _ hr => ?_⟩
      obtain ⟨p, hp, hcase⟩ := (mem_replayAdvs hadv).path
      rcases hcase with ⟨rfl, hnil⟩ | ⟨hpne, e, he, heo, _, hpe⟩
      · -- no path tail: the routes are the replayer's own
        have ho : f.adv.origin = f.src := Decidable.byContradiction (fun hne =>
          hr (hnil (fun e he heo => (hI.entries _ e he).1 (heo ▸ hne))))
        exact ⟨[], hp, rfl, by rw [ho]; rfl⟩
      · -- the stored path of one of the origin's routes
        obtain ⟨_, hc, hlast⟩ := (hI.entries _ e he).2 (hpe ▸ hpne)
        refine ⟨p, hp, hpe ▸ hc, ?_⟩
        cases p with
        | nil => exact absurd rfl hpne
        | cons y t => rw [List.getLast?_cons_cons, ← hpe, hlast, heo]
  exact {
    sym := sym_step hnd hI.sym
    flight := fun f hf => ⟨linked_step_mono hnd (hflight f hf).1, fun hw hr => by
      obtain ⟨rest, h1, h2, h3⟩ := (hflight f hf).2 hw hr
      exact ⟨rest, h1, up _ _ h2, h3⟩⟩
    entries := by
      intro x e he
      rcases entries_step he with h | ⟨a, m, hm, hl, hwd, _, _, r, hr, rfl⟩
      · obtain ⟨h1, h2⟩ := hI.entries x e h
        exact ⟨h1, fun hne => ⟨(h2 hne).1, up _ _ (h2 hne).2.1, (h2 hne).2.2⟩⟩
      · -- stored from frame `m`, whose path `a :: rest` is extended by the link `x — a`
        obtain ⟨rest, h1, h2, h3⟩ := (hI.flight _ hm).2 hwd (List.ne_nil_of_mem hr)
        have hpath : (mkEntry r m a (s.clock + 1)).path = a :: rest := h1
        rw [EntryOK, hpath]
        exact ⟨fun _ => List.cons_ne_nil _ _, fun _ =>
          ⟨rfl, up _ _ (Bool.and_eq_true_iff.2 ⟨hI.sym _ _ hl, h2⟩), h3⟩⟩ }

/-- "Stable topology": no connection is lost during the history (links may still come up). When a
    connection IS lost, recorded paths through it stay until the origin's next announcement or the
    stale-route cleanup replaces them; that transient is outside the property's quantifier and is
    exercised by the differential run (engine c12, `disconnect` ops and the reroute cases). -/
def stableTopology (ops : List Op) : Prop := ∀ op, op ∈ ops → ∀ c d, op ≠ .disconnect c d

/-- C12 (paths): in every reachable state every learned route's next hop is a current neighbour
    and the head of its path, the path is a chain of actual links ending at the origin, and a stream
    opened along it reaches the advertising agent. -/
def C12_statement : Prop :=
  ∀ (n mh : Nat) (L : Node → List RAd) (ops : List Op), stableTopology ops →
    ∀ (x : Node) (e : Entry),
    e ∈ ((run (init n mh L) ops).nodes x).entries → e.path ≠ [] →
    linked (run (init n mh L) ops) x e.nextHop = true ∧
    EntryOK (run (init n mh L) ops) x e ∧
    openRoute (linked (run (init n mh L) ops)) x e = some e.origin

theorem C12_path_is_chain (n mh : Nat) (L : Node → List RAd) (ops : List Op)
    (hst : stableTopology ops) (x : Node) (e : Entry)
    (he : e ∈ ((run (init n mh L) ops).nodes x).entries) (hp : e.path ≠ []) :
    EntryOK (run (init n mh L) ops) x e :=
  ((run_induction_mem (P := Inv) _ ops (inv_init n mh L)
    (fun _ op hop h => inv_step (hst op hop) h)).entries x e he).2 hp

theorem C12_holds : C12_statement := by
  intro n mh L ops hst x e he hp
  have hok := C12_path_is_chain n mh L ops hst x e he hp
  have hopen := C12_open_reaches_origin _ x e hok
  -- `openRoute` only succeeds over a link to the next hop
  exact ⟨Decidable.byContradiction (fun h => by rw [openRoute, if_neg h] at hopen; cases hopen), hok, hopen⟩

/-- Non-vacuity: after a flood over the chain 0-1-2-3 agent 3 holds the route of agent 0 with path
    2-1-0, and the open walk from 3 arrives at agent 0. (`C12_holds` also covers the ring history of
    C11 — third-party replay, path 0-2-1-0-3 that revisits agent 0: that walk ends at the origin too.) -/
def exitAt0 : Node → List RAd := fun x => if x = 0 then [⟨0, 1, 0⟩] else []

def chainOps : List Op := [
  .connect 0 1, .connect 1 2, .connect 2 3, .announce 0 [], .deliver 0 1 0, .deliver 1 2 0, .deliver 2 3 0]

example : (((run (init 4 0 exitAt0) chainOps).nodes 3).entries.map
    (fun e => (e.path, openRoute (linked (run (init 4 0 exitAt0) chainOps)) 3 e))) =
    [([2, 1, 0], some 0), ([2, 1, 0], some 0)] := by decide +kernel

end MM.C12

/-
  C24 — HTTP API enforces bearer-token auth and endpoint gating.

  "When an API token is configured, every request to a non-exempt endpoint without the valid
   token (in the header or the query) gets 401 and triggers no action.  The exempt endpoints are
   exactly the health and readiness probes, the splash page and the logo.  Endpoint groups
   disabled in configuration answer 404 and perform no action."

  Model: MM/Model/C24.lean.  The exempt set and the registration table are regenerated from
  internal/health/server.go (go/ast) on every run; net/http's ServeMux is modelled for the pattern
  forms registered there and validated by the correspondence run only (it is not verified).
  Quantification: all escaped path spellings (`Raw`), CONNECT / non-CONNECT, all Authorization
  header values and query tokens, all 2^3 flag combinations, any token predicate `valid`.
-/
import MM.Lemmas.C24
import MM.Gen.C24Tok
import MM.Gen.LockC24

namespace MM.C24

/-- The documented exempt endpoints: health and readiness probes, the splash page, the logo. -/
def documentedExempt : List (List Char) :=
  [['/', 'h', 'e', 'a', 'l', 't', 'h'], ['/', 'h', 'e', 'a', 'l', 't', 'h', 'z'], ['/', 'r', 'e', 'a', 'd', 'y'], ['/'],
   ['/', 'l', 'o', 'g', 'o', '.', 'p', 'n', 'g']]

/-! The request type `Req` IS the set of things the 401 decision may look at: the escaped path, whether
the method is CONNECT (routing only), the value of the Authorization header and the `token` query
parameter.  The method itself and every other request header (Origin, Access-Control-Request-*,
Upgrade / Connection, X-Forwarded-*, X-Original-URL, X-HTTP-Method-Override, Proxy-Authorization,
Cookie, …) are not arguments of `serve`: by construction they cannot influence the answer.  The
`reqh` ops tie that to the code — the same request with each header set of a fixed pool, for every
protected path and every method, must get the model's answer (401 before the mux without a token). -/

/-- Token configured, path not exempt, no valid token (header or query) ⇒ 401 and no handler at
    all (the mux is never consulted), for every method, path spelling and flag combination. -/
theorem C24_401 (valid : List Char → Bool) (f : Flags) (r : Req)
    (hex : decoded r.path ∉ exempt)
    (htok : extractToken r = [] ∨ valid (extractToken r) = false) :
    serve valid true f r = ⟨.s401, none, false⟩ := by
  unfold serve
  simp only [Bool.not_true, Bool.false_eq_true, if_false, if_neg hex]
  rw [if_pos htok]

/-- The exempt set in the source is exactly the documented one. -/
theorem C24_exempt_set : ∀ p, p ∈ exempt ↔ p ∈ documentedExempt := by
  intro p
  exact ⟨(by decide : ∀ q ∈ exempt, q ∈ documentedExempt) p,
    (by decide : ∀ q ∈ documentedExempt, q ∈ exempt) p⟩

/-! ### the token predicate is a function of the token (atomic-step / ordering ties)

`C24_401` takes `valid` as a FUNCTION of the presented token.  For the real `validateToken` this
needs: (a) the cache (`cachedTokenSHA`, `tokenCacheValid`) is written only after
`bcrypt.CompareHashAndPassword` returned nil for that very token — then "the cache holds t" implies
"bcrypt accepts t" at every instant of every interleaving, so the fast path never accepts a token
bcrypt would refuse (SHA-256 collisions aside); (b) the cache fields are written under the write
lock and read under a lock, so a reader never sees a half-written entry.  Both are facts about the
source, regenerated on every run (tools/c24_tokencache.go, tools/lockshape.go). -/

/-- (a) one bcrypt call, used as the guard `if bcrypt…(…) != nil { return false }`, and every
    assignment to a cache field is a statement after that guard. -/
theorem C24_cache_after_bcrypt :
    Gen.C24Tok.bcryptCalls = 1 ∧ Gen.C24Tok.guards = 1 ∧ Gen.C24Tok.cacheWritesBeforeGuard = 0 ∧
    Gen.C24Tok.cacheWrites = Gen.C24Tok.cacheWritesAfterGuard := by decide

/-- (b) every write of a cache field happens under the write lock, every read under a lock. -/
theorem C24_cache_locked :
    Gen.LockC24.accesses.all (fun a => if a.2.2.1 then a.2.2.2 == "W" else (a.2.2.2 == "R" || a.2.2.2 == "W")) = true ∧
    Gen.LockC24.accesses ≠ [] := by decide

/-! ### which strings authenticate -/

/-- With the length / NUL guard, the only string bcrypt's key construction identifies with a
    NUL-free token of at most 72 bytes is the token itself. -/
theorem C24_token_exact (t p : List Char) (ht : t.length ≤ 72) (htn : NUL ∉ t)
    (h : validateToken t p = true) : p = t := by
  unfold validateToken bcryptAccepts at h
  simp only [Bool.and_eq_true, decide_eq_true_eq, Bool.not_eq_true', beq_iff_eq] at h
  obtain ⟨⟨hp, hpn⟩, hk⟩ := h
  have hpn' : NUL ∉ p := by simpa using hpn
  have hlen : p.length = t.length :=
    Nat.le_antisymm (Nat.not_lt.mp (key_not_shorter hp hpn' hk.symm))
      (Nat.not_lt.mp (key_not_shorter ht htn hk))
  apply List.ext_getElem hlen
  intro i h1 h2
  have h := key_lt h1 (by omega)
  rw [hk, key_lt h2 (by omega)] at h
  exact (Option.some.inj h).symm

/-- Hence: token configured (NUL-free, at most 72 bytes — all that can be hashed), path not exempt,
    and the presented string (header or query) is not EXACTLY the token ⇒ 401, mux never reached. -/
theorem C24_401_exact (t : List Char) (f : Flags) (r : Req) (ht : t.length ≤ 72) (htn : NUL ∉ t)
    (hex : decoded r.path ∉ exempt) (hne : extractToken r ≠ t) :
    serve (validateToken t) true f r = ⟨.s401, none, false⟩ := by
  apply C24_401 _ f r hex
  by_cases h : validateToken t (extractToken r) = true
  · exact absurd (C24_token_exact t _ ht htn h) hne
  · right; simpa using h

/-- Without the length / NUL guard bcrypt alone identifies other strings with the token (this is
    what the code did before fixes/C24-token-length.patch): a 72-byte token and any extension. -/
example : bcryptAccepts (List.replicate 72 'a') (List.replicate 72 'a' ++ ['x']) = true := by
  rw [bcryptAccepts, bcryptKey_of_le (by decide), bcryptKey_of_le (by decide)]
  decide
example : bcryptAccepts ['a', 'b'] ['a', 'b', NUL, 'a', 'b'] = true := by decide +kernel
example : validateToken ['a', 'b'] ['a', 'b'] = true ∧ validateToken ['a', 'b'] ['a', 'b', NUL, 'a', 'b'] = false := by
  decide +kernel

/-! ### exempt paths reach only exempt registrations -/

/-- The mux ran no handler, or the handler of an exempt path's registration. -/
def okRes : MuxRes → Bool
  | .route rt => exempt.contains rt.pat
  | _ => true

theorem exempt_shape : ∀ d ∈ exempt, d.head? = some '/' ∧ '/' ∉ d.drop 1 := by decide

/-- Table fact: for every flag combination, a path that the tree sees as an exempt path is served
    by the registration of that exempt path (or redirected). -/
theorem exempt_table (a b c conn ch : Bool) :
    exempt.all (fun d => okRes (decideSegs (active ⟨a, b, c⟩) conn ch (segsOfDecoded d).1 (segsOfDecoded d).2)) = true := by
  -- all 32 combinations in one kernel evaluation
  revert a b c conn ch
  decide +kernel

theorem muxRoute_exempt (f : Flags) (conn : Bool) (p : Raw) (h : decoded p ∈ exempt) :
    okRes (muxRoute (active f) conn p) = true := by
  obtain ⟨hhead, hns⟩ := exempt_shape _ h
  rcases muxRoute_cases (active f) conn p with hr | hr
  · rw [hr]; rfl
  · cases p with
    | nil => cases hhead
    | cons x rest =>
      rw [hr, segsOf_noSlash x rest (fun c hc hcs => hns (List.mem_map.mpr ⟨c, hc, hcs ▸ rfl⟩))]
      exact List.all_eq_true.mp (exempt_table f.remote f.dashboard f.pprof conn false) _ h

/-- A request whose decoded path is exempt is served by the registration of an exempt path, or by
    no handler at all (redirect) — for every escaped spelling of the path, with or without a token.
    Together with `C24_401`: without the valid token only the exempt registrations ever run. -/
theorem C24_exempt_exact (valid : List Char → Bool) (tc : Bool) (f : Flags) (r : Req)
    (h : decoded r.path ∈ exempt) :
    (serve valid tc f r).route = none ∨
      ∃ rt, (serve valid tc f r).route = some rt ∧ rt.pat ∈ exempt := by
  rcases serve_cases valid tc f r with hs | hs
  · rw [hs]
    cases hr : (serveMux f r).route with
    | none => exact Or.inl rfl
    | some rt =>
      have hok := muxRoute_exempt f r.connect r.path h
      rw [serveMux_route hr] at hok
      exact Or.inr ⟨rt, rfl, List.contains_iff_mem.mp hok⟩
  · rw [hs]; exact Or.inl rfl

/-! ### disabled endpoint groups -/

theorem fact_disabled : routes.all (fun r => r.grp == 0 || r.whenOn || r.disabled) = true := by decide

/-- Every registration is in a group `Flags.on` decides. -/
theorem fact_grp : routes.all (fun r => decide (r.grp ≤ 3)) = true := by decide

/-- No registration of another group (or an unconditional one) sits below a group's pattern. -/
theorem fact_nested :
    routes.all (fun q => q.grp == 0 || routes.all (fun r => !(q.segs.isPrefixOf r.segs) || r.grp == q.grp)) = true := by
  decide +kernel

/-- Every pattern of a group's enabled branch is covered by a pattern of its disabled branch. -/
theorem fact_cover :
    routes.all (fun p => p.grp == 0 || !p.whenOn ||
      routes.any (fun q => q.grp == p.grp && !q.whenOn && covers q p)) = true := by
  decide +kernel

theorem active_off {f : Flags} {rt : Route} (hm : rt ∈ active f) (hoff : f.on rt.grp = false)
    (hg : rt.grp ≠ 0) : rt.disabled = true := by
  have hmem := List.mem_filter.mp hm
  have hw : rt.whenOn = false := by simpa [hoff] using hmem.2
  simpa [hg, hw] using List.all_eq_true.mp fact_disabled rt hmem.1

/-- A disabled group's handlers never run, whatever the path: any registration of that group that
    serves a request is a `disabledHandler`, the answer is 404 and no provider is called. -/
theorem C24_disabled_no_action (valid : List Char → Bool) (tc : Bool) (f : Flags) (r : Req)
    (rt : Route) (h : (serve valid tc f r).route = some rt) (hg : rt.grp ≠ 0)
    (hoff : f.on rt.grp = false) :
    rt.disabled = true ∧ (serve valid tc f r).status = .s404 ∧ (serve valid tc f r).mayCall = false := by
  rcases serve_cases valid tc f r with hs | hs
  · rw [hs] at h ⊢
    have hm := serveMux_route h
    have hd := active_off (matchSegs_mem (decideSegs_route hm)) hoff hg
    rw [serveMux_disabled hm hd]
    exact ⟨hd, rfl, rfl⟩
  · rw [hs] at h; cases h

/-- The request lies in the area of endpoint group `g`: the path the mux matches on is matched by
    a pattern that NewServer registers when the group is enabled. -/
def inGroup (g : Nat) (r : Req) : Prop :=
  ∃ P ∈ routes, P.grp = g ∧ P.whenOn = true ∧
    patMatches P (segsOf (mpath r.connect r.path)).1 (segsOf (mpath r.connect r.path)).2 = true

/-- Group disabled ⇒ every request in the group's area that gets past authentication and is not
    redirected is answered 404 by a `disabledHandler`, and no provider is called. -/
theorem C24_disabled_404 (valid : List Char → Bool) (tc : Bool) (f : Flags) (r : Req) (g : Nat)
    (hg : g ≠ 0) (hoff : f.on g = false) (hin : inGroup g r)
    (h401 : (serve valid tc f r).status ≠ .s401) (h301 : (serve valid tc f r).status ≠ .s301) :
    (serve valid tc f r).status = .s404 ∧ (serve valid tc f r).mayCall = false ∧
      ∃ rt, (serve valid tc f r).route = some rt ∧ rt.disabled = true := by
  obtain ⟨P, hP, hPg, hPon, hPm⟩ := hin
  subst hPg
  -- a disabled-branch pattern Q of the same group covers P
  have hc := List.all_eq_true.mp fact_cover P hP
  simp only [hg, hPon, Bool.or_eq_true, beq_iff_eq, Bool.not_eq_true', List.any_eq_true,
    Bool.and_eq_true, false_or, Bool.true_eq_false] at hc
  obtain ⟨Q, hQ, ⟨hQg, hQoff⟩, hcov⟩ := hc
  have hQact : Q ∈ active f := List.mem_filter.mpr ⟨hQ, by rw [hQg, hoff, hQoff]; rfl⟩
  -- so the lookup finds some M below Q, and whatever lies below Q belongs to the group
  obtain ⟨M, hM, hpre⟩ := matchSegs_of_match hQact (covers_matches hcov hPm)
  have hMact := matchSegs_mem hM
  have hn := List.all_eq_true.mp fact_nested Q hQ
  simp only [hQg, hg, Bool.or_eq_true, beq_iff_eq, false_or, List.all_eq_true] at hn
  have hMg : M.grp = P.grp := by
    simpa [List.isPrefixOf_iff_prefix.mpr hpre] using hn M (List.mem_filter.mp hMact).1
  have hMd : M.disabled = true := active_off hMact (hMg ▸ hoff) (hMg ▸ hg)
  -- `muxRoute` is `decideSegs` on the segments `hM` speaks of
  have hmux : muxRoute (active f) r.connect r.path = .redirect ∨
      muxRoute (active f) r.connect r.path = .route M := decideSegs_some hM
  have hs : serve valid tc f r = serveMux f r :=
    (serve_cases valid tc f r).resolve_right (fun hs => h401 (by rw [hs]))
  rw [hs] at h301 ⊢
  rcases hmux with hd | hd
  · exact absurd (by unfold serveMux; rw [hd]) h301
  · rw [serveMux_disabled hd hMd]
    exact ⟨rfl, rfl, M, rfl, hMd⟩

/-! ### gating as CONFIGURED

agent.go builds `health.ServerConfig` from `cfg.HTTP.PprofEnabled()` / `DashboardEnabled()` /
`RemoteAPIEnabled()`; the `gate` ops serve requests through the handler of an agent built by
`agent.New` from parsed YAML, for every combination of `minimal` × {unset, true, false}³, and compare
with `serve … (flagsOfConfig h)`. -/

/-- Minimal mode disables every endpoint group whatever the per-group flags say (without it a group
    is off exactly when its flag is set to false: `groupEnabled`). -/
theorem C24_minimal_overrides (h : HTTPCfg) (hm : h.minimal = true) :
    flagsOfConfig h = ⟨false, false, false⟩ := by
  simp [flagsOfConfig, groupEnabled, hm]

/-- … so in minimal mode any request in the area of any group, past authentication and not
    redirected, answers 404 from a `disabledHandler` without provider calls. -/
theorem C24_minimal_404 (valid : List Char → Bool) (tc : Bool) (h : HTTPCfg) (r : Req) (g : Nat)
    (hm : h.minimal = true) (hg : g = 1 ∨ g = 2 ∨ g = 3) (hin : inGroup g r)
    (h401 : (serve valid tc (flagsOfConfig h) r).status ≠ .s401)
    (h301 : (serve valid tc (flagsOfConfig h) r).status ≠ .s301) :
    (serve valid tc (flagsOfConfig h) r).status = .s404 ∧ (serve valid tc (flagsOfConfig h) r).mayCall = false := by
  have hoff : (flagsOfConfig h).on g = false := by
    rw [C24_minimal_overrides h hm]
    rcases hg with rfl | rfl | rfl <;> rfl
  have hg0 : g ≠ 0 := by rcases hg with rfl | rfl | rfl <;> decide
  have := C24_disabled_404 valid tc (flagsOfConfig h) r g hg0 hoff hin h401 h301
  exact ⟨this.1, this.2.1⟩

example : flagsOfConfig ⟨false, none, some false, some true⟩ = ⟨true, false, true⟩ := rfl

/-! ### non-vacuity -/

private def rq (conn : Bool) (p : Raw) (auth q : List Char) : Req := ⟨conn, p, auth, q⟩
private def lits (s : List Char) : Raw := s.map PC.lit
private def allOn : Flags := ⟨true, true, true⟩

-- "/agents" without a token: 401, nothing runs.
example : serve (fun _ => false) true allOn (rq false (lits ['/', 'a', 'g', 'e', 'n', 't', 's']) [] []) =
    ⟨.s401, none, false⟩ := by decide
-- "/health" without a token: served by the "/health" registration.
example : ((serve (fun _ => false) true allOn (rq false (lits ['/', 'h', 'e', 'a', 'l', 't', 'h']) [] [])).route.map (·.pat)) =
    some ['/', 'h', 'e', 'a', 'l', 't', 'h'] := by decide +kernel
-- "/%68ealth" decodes to the exempt "/health" and reaches the same registration.
example : ((serve (fun _ => false) true allOn
    (rq false (PC.lit '/' :: PC.enc 'h' :: lits ['e', 'a', 'l', 't', 'h']) [] [])).route.map (·.pat)) =
    some ['/', 'h', 'e', 'a', 'l', 't', 'h'] := by decide +kernel
-- dashboard disabled: "/api/topology" is in the dashboard area and answers 404 from "/api/".
example : inGroup 2 (rq false (lits ['/', 'a', 'p', 'i', '/', 't', 'o', 'p', 'o', 'l', 'o', 'g', 'y']) [] []) :=
  ⟨⟨['/', 'a', 'p', 'i', '/', 't', 'o', 'p', 'o', 'l', 'o', 'g', 'y'], 2, true, false, "s.handleTopology"⟩,
    by decide +kernel, rfl, rfl, by decide +kernel⟩
example : (serve (fun _ => false) false ⟨true, false, true⟩
    (rq false (lits ['/', 'a', 'p', 'i', '/', 't', 'o', 'p', 'o', 'l', 'o', 'g', 'y']) [] [])).status = .s404 := by decide +kernel

end MM.C24

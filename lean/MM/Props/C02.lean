/-
  C02 — No nonce is ever reused under a session key, in either direction.

  "Within one tunnel session, no two payloads are ever sealed with the same key and nonce.  This
   holds whichever side sends, and however many senders write concurrently.  The key is shared by
   both directions."

  Model: MM/Model/C02.lean — every `Encrypt` call takes its nonce in one atomic (mutex-protected)
  step; any number of concurrent senders on either end = any interleaving of `encI | encR` labels.
  Tie: (1) MM/Gen/C02.lean, regenerated by a go/ast pass on every run: `buildSendNonce()` and the
  `sendNonce` update lie inside the Lock/Unlock region of Encrypt, nothing else writes `sendNonce`,
  Seal uses the local nonce copy, and every DeriveSessionKey call site passes `isInitiator = true`
  exactly when its own key is in the initiator slot; (2) a goroutine stress run of the real code
  compared with `predictedCount`.
-/
import MM.Lemmas.C02
import MM.Gen.C02

namespace MM.C02
open MM.C01

/-- No reuse, for ANY starting counters and ANY interleaving of `Encrypt` calls on the two ends.
    `hI`, `hR` say that the start counters are `uint64`; the number of calls is not bounded: the
    code refuses the last counter value instead of wrapping. -/
theorem C02_no_reuse (sendI sendR : Nat) (hI : sendI < W) (hR : sendR < W) (ls : List Label) :
    (run (start sendI sendR) ls).nonces.Pairwise (fun a b => a.wire ≠ b.wire) :=
  (inv_run (inv_start hI hR) ls).distinct

/-- The two directions never share a nonce: an initiator nonce and a responder nonce differ in the
    prefix, whatever the counters are. -/
theorem C02_dir_disjoint (sendI sendR : Nat) (hI : sendI < W) (hR : sendR < W) (ls : List Label)
    (a b : Nonce) (ha : a ∈ (run (start sendI sendR) ls).nonces)
    (hb : b ∈ (run (start sendI sendR) ls).nonces) (hab : a.byInit = true ∧ b.byInit = false) :
    a.pfx ≠ b.pfx ∧ a.wire ≠ b.wire := by
  have inv := inv_run (inv_start hI hR) ls
  have hp : a.pfx ≠ b.pfx := fun h => by
    rw [(inv.shape a ha).1, (inv.shape b hb).1, hab.1, hab.2] at h
    exact absurd (sendPfx_inj h) nofun
  exact ⟨hp, fun hw => hp (congrArg Prod.fst hw)⟩

theorem C02_wire_nodup (sendI sendR : Nat) (hI : sendI < W) (hR : sendR < W) (ls : List Label) :
    ((run (start sendI sendR) ls).nonces.map Nonce.wire).Nodup :=
  List.pairwise_map.mpr (C02_no_reuse sendI sendR hI hR ls)

/-! ### tie to the source (regenerated facts) -/

/-- In `Encrypt`, every statement that calls `buildSendNonce()` or updates `sendNonce` lies strictly
    between `s.mu.Lock()` and `s.mu.Unlock()`; both kinds exist; an early Unlock inside the region
    returns; `aead.Seal` is given the local copy. -/
theorem C02_tie_lock_region :
    (∀ k ∈ Gen.C02.nonceStmts ++ Gen.C02.incStmts, Gen.C02.lockStmt < k ∧ k < Gen.C02.unlockStmt) ∧
    Gen.C02.nonceStmts ≠ [] ∧ Gen.C02.incStmts ≠ [] ∧
    Gen.C02.earlyUnlocksReturn = true ∧ Gen.C02.sealUsesLocalNonce = true := by decide

/-- `Encrypt` is the only function of the package that writes `sendNonce` or builds a send nonce. -/
theorem C02_tie_single_writer :
    Gen.C02.sendNonceWriters = ["Encrypt"] ∧ Gen.C02.buildSendNonceCallers = ["Encrypt"] := by decide

/-- Every call site resolves, and passes `isInitiator = true` exactly when the caller's own public
    key is in the initiator slot of the salt — so the two ends of a session (which agree on the
    salt, C03) hold opposite flags, which is what `start` assumes. -/
theorem C02_tie_roles :
    Gen.C02.unresolvedSites = [] ∧ Gen.C02.siteFlags ≠ [] ∧
    ∀ s ∈ Gen.C02.siteFlags, s.2.1 = (if s.2.2 then "true" else "false") := by decide

/-! ### non-vacuity -/

example : ((run (start 0 0) [.encI, .encR, .encI, .encI, .encR]).nonces.map Nonce.wire) =
    [(0x80000000, 1), (0, 2), (0, 1), (0x80000000, 0), (0, 0)] := by decide

/-- At the end of the counter space calls are refused, not wrapped. -/
example : ((run (start (maxCtr - 1) 0) [.encI, .encI, .encI]).nonces.map Nonce.wire) =
    [(0, maxCtr - 1)] := by decide

end MM.C02

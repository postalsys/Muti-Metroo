/-
  C36 — Embedded configuration round-trips and malformed binaries are handled safely.

  "Embedding any non-empty configuration into a binary and reading it back yields the
   same configuration, and stripping it yields the original binary.  For any file
   contents, the embedded-configuration readers return a result or an error without
   crashing and without reading outside the file."

  Model: MM/Model/C36.lean (tied to /repo/internal/embed/embed.go by T-diff, constants by T-gen).
-/
import MM.Lemmas.C36

namespace MM.C36

theorem C36_xor_involutive (bs : Bytes) : xor (xor bs) = bs := xorFrom_xorFrom 0 bs

/-- `FooterSize` in the source is the 16 the model uses (T-gen tie). -/
theorem footerSize_tie : Gen.C36.footerSize = footerSize := by decide

/-- Round trip: whenever `AppendConfig` succeeds on a non-empty configuration, reading the
    produced file returns exactly that configuration.  (`AppendConfig` refuses only sources that
    already end in the magic; `hsz` says the file fits the address space, which `make` needs.) -/
theorem C36_roundtrip (src cfg out : Bytes) (hne : cfg ≠ [])
    (h : appendConfig src cfg = .ok out) (hsz : (out.length : Int) ≤ maxAlloc) :
    readEmbedded out = .ok cfg := by
  obtain ⟨hout, hlen, hra, hfl, h16, hgt⟩ := embedded_file h hsz
  obtain ⟨h64, hal, hrd⟩ := trailer_len_ok hsz h16 hgt
  unfold readEmbedded
  dsimp only
  rw [if_neg h16, hra]
  simp only [footerMagic_embedded, hfl, ne_eq, not_true_eq_false, if_false]
  rw [if_neg (mt List.eq_nil_of_length_eq_zero hne), if_neg hgt, h64]
  simp only [hal, Bool.not_true, Bool.false_eq_true, if_false]
  rw [hrd, show out.length - 16 - cfg.length = src.length by omega, hout, List.append_assoc,
    List.drop_left, List.take_left' (xor_length cfg)]
  exact congrArg Res.ok (C36_xor_involutive cfg)

theorem originalSize_embedded (src cfg out : Bytes)
    (h : appendConfig src cfg = .ok out) (hsz : (out.length : Int) ≤ maxAlloc) :
    originalSize out = .ok (src.length : Int) := by
  obtain ⟨_, hlen, hra, hfl, h16, hgt⟩ := embedded_file h hsz
  unfold originalSize
  dsimp only
  rw [if_neg h16, hra]
  simp only [footerMagic_embedded, hfl, ne_eq, not_true_eq_false, if_false]
  rw [if_neg hgt, (trailer_len_ok hsz h16 hgt).1]
  exact congrArg Res.ok (by omega)

/-- Stripping a freshly embedded file yields the original binary (also for an empty config). -/
theorem C36_strip (src cfg out : Bytes)
    (h : appendConfig src cfg = .ok out) (hsz : (out.length : Int) ≤ maxAlloc) :
    strip out = .ok src := by
  obtain ⟨hout, hlen, _⟩ := embedded_file h hsz
  unfold strip
  rw [originalSize_embedded src cfg out h hsz]
  simp only [allocOK_of_le (n := src.length) (by omega) (by omega), Bool.not_true, Bool.false_eq_true,
    if_false, Int.toNat_natCast]
  rw [readAt_zero (by omega), hout, List.append_assoc, List.take_left]

/-! Totality/safety for arbitrary file contents (`hsz`: the file fits the address space). -/

/-- `ReadEmbeddedConfig` never panics, never issues a read whose range is not inside the file,
    and the only allocation it requests is non-negative and no larger than the file. -/
theorem readEmbedded_safe (file : Bytes) (hsz : (file.length : Int) ≤ maxAlloc) :
    readEmbedded file ≠ .panic ∧ readEmbedded file ≠ .ioErr ∧
    (∀ n, readAllocRequest file = some n → 0 ≤ n ∧ n ≤ file.length) := by
  have hread : readEmbedded file ≠ .panic ∧ readEmbedded file ≠ .ioErr := by
    fun_cases readEmbedded file
    -- `case2`: the footer read fails; `case6`: `make` panics; `case7`: the second read fails. None
    -- happens: the footer lies inside the file, and past the size check `trailer_len_ok` applies
    case case2 _ h16 hr => cases (readAt_footer h16).symm.trans hr
    case case6 _ h16 _ _ _ _ _ hgt hal =>
      obtain ⟨h64, hal', _⟩ := trailer_len_ok hsz h16 hgt
      rw [h64, hal'] at hal
      cases hal
    case case7 _ h16 _ _ _ _ _ hgt _ _ hr =>
      obtain ⟨h64, _, hrd⟩ := trailer_len_ok hsz h16 hgt
      rw [← h64] at hrd
      cases hrd.symm.trans hr
    all_goals exact ⟨nofun, nofun⟩
  refine ⟨hread.1, hread.2, fun n => ?_⟩
  fun_cases readAllocRequest file
  -- the one branch with a request: past the size check
  case case6 _ h16 _ _ _ _ _ hgt =>
    rintro ⟨⟩
    rw [(trailer_len_ok hsz h16 hgt).1]
    dsimp +zetaDelta only at hgt ⊢
    omega
  all_goals nofun

/-- `GetOriginalBinarySize` answers with a valid prefix length of the file, or with
    `ErrConfigTooLarge`; nothing else. -/
theorem originalSize_safe (file : Bytes) (hsz : (file.length : Int) ≤ maxAlloc) :
    ∃ n, (originalSize file = .ok n ∧ 0 ≤ n ∧ n ≤ file.length) ∨ originalSize file = .tooLarge := by
  fun_cases originalSize file
  -- `case4`: too large; `case5`: past the size check; the others answer the file size
  case case4 => exact ⟨0, Or.inr rfl⟩
  case case5 _ h16 _ _ _ _ hgt =>
    rw [(trailer_len_ok hsz h16 hgt).1]
    dsimp +zetaDelta only at hgt ⊢
    exact ⟨_, Or.inl ⟨rfl, by omega, by omega⟩⟩
  all_goals exact ⟨_, Or.inl ⟨rfl, Int.natCast_nonneg _, Int.le_refl _⟩⟩

/-- `CopyBinaryWithoutConfig` never panics and never reads outside the file. -/
theorem strip_safe (file : Bytes) (hsz : (file.length : Int) ≤ maxAlloc) :
    strip file ≠ .panic ∧ strip file ≠ .ioErr := by
  unfold strip
  obtain ⟨n, ⟨h, h0, h1⟩ | h⟩ := originalSize_safe file hsz
  · have hal := allocOK_of_le h0 (Int.le_trans h1 hsz)
    rw [h]; dsimp only
    simp [hal, readAt_zero (file := file) (n := n.toNat) (by omega)]
  · rw [h]; simp

/-- C36, second sentence, assembled. -/
theorem C36_total (file : Bytes) (hsz : (file.length : Int) ≤ maxAlloc) :
    readEmbedded file ≠ .panic ∧ readEmbedded file ≠ .ioErr ∧
    strip file ≠ .panic ∧ strip file ≠ .ioErr ∧
    (∀ n, originalSize file = .ok n → 0 ≤ n ∧ n ≤ file.length) ∧
    (∀ n, readAllocRequest file = some n → 0 ≤ n ∧ n ≤ file.length) := by
  obtain ⟨r1, r2, r3⟩ := readEmbedded_safe file hsz
  obtain ⟨s1, s2⟩ := strip_safe file hsz
  refine ⟨r1, r2, s1, s2, ?_, r3⟩
  intro n hn
  obtain ⟨m, h | h⟩ := originalSize_safe file hsz
  · rw [h.1] at hn
    exact Res.ok.inj hn ▸ h.2
  · rw [h] at hn; cases hn

/-! Non-vacuity: a concrete embed satisfies the hypotheses and the conclusions compute. -/
example : appendConfig [1, 2, 3] [0x41, 0x42] ≠ .already ∧
    (∃ out, appendConfig [1, 2, 3] [0x41, 0x42] = .ok out ∧ readEmbedded out = .ok [0x41, 0x42]
      ∧ strip out = .ok [1, 2, 3]) := by
  refine ⟨by decide, _, rfl, by decide, by decide⟩

/-- The failing input of finding C36-signed-trailer-length: a trailer length of 2^63 on a 24-byte
    file is rejected as too large (the unfixed code handed this length to `make`, which panics). -/
example : readEmbedded ([0,0,0,0,0,0,0,0] ++ leN 8 (2^63) ++ magic) = .tooLarge := by decide

end MM.C36

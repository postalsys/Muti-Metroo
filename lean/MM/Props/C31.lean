import MM.Lemmas.C31
import MM.Gen.LockC31

/-!
  C31 — reconnection respects pause and bounded exponential backoff.

  Statements are about the fixed reconnector (`fx = true`, i.e. after
  fixes/C31-reconnect-pause-and-orphan-timer.patch) under ANY sequence of steps: Schedule calls,
  timer expiries, callbacks returning success or failure (with or without the Schedule call that
  Manager.handleReconnect makes itself on a failed dial), Pause/Resume/ResetAll/Cancel/Stop at
  any time — in particular while an attempt is in flight.  `C31_old_*` are the machine-checked
  witnesses of the defects of the code before the fix.
-/
namespace MM.C31

inductive Reachable (c : Cfg) : R → Prop where
  | init : Reachable c {}
  | step (r : R) (l : Label) : Reachable c r → Reachable c (step true c r l).1

theorem reachable_inv (c : Cfg) (r : R) (h : Reachable c r) : Inv c r := by
  induction h with
  | init => exact inv_init c
  | step r l _ ih => exact inv_step c r ih l

/-- **While paused no attempt starts** — in ANY state (no invariant needed): a step taken while
    `paused` emits no attempt, and an emitted attempt is never flagged "while paused". -/
theorem C31_paused_no_attempt (c : Cfg) (r : R) (l : Label) (n d : Nat) (wp : Bool)
    (h : (step true c r l).2 = some (.attempt n d wp)) : r.paused = false ∧ wp = false := by
  obtain ⟨hwp, hp, _⟩ := step_attempt h
  exact ⟨hp, hwp⟩

/-- ... and in reachable states nothing is even armed while paused: there is no timer that could
    start an attempt. -/
theorem C31_paused_nothing_armed (c : Cfg) (r : R) (h : Reachable c r) (hp : r.paused = true) :
    r.live = [] := by
  rcases (reachable_inv c r h).2 with h0 | ⟨_, _, _, _, _, _, hp', _⟩
  · exact h0
  · rw [hp] at hp'; cases hp'

/-- **No orphan timer**: at most one timer is armed, and it is the registered one. -/
theorem C31_single_timer (c : Cfg) (r : R) (h : Reachable c r) :
    r.live.length ≤ 1 ∧ ∀ t ∈ r.live, ∃ s, r.st = some s ∧ s.timer = some t.id := by
  rcases (reachable_inv c r h).2 with h0 | ⟨s, t, hs, hl, ht, _⟩
  · simp [h0]
  · simp [hl, hs, ht]

/-- **Backoff sequence**: the attempt that makes the attempt counter `k+1` (the k-th consecutive
    retry) is started by a timer armed with the un-jittered delay `dseq k`:
    d₀ = I, dₖ₊₁ = min(⌊dₖ·m⌋, M). -/
theorem C31_delay_seq (c : Cfg) (r : R) (hr : Reachable c r) (l : Label) (n d : Nat) (wp : Bool)
    (h : (step true c r l).2 = some (.attempt n d wp)) : ∃ k, n = k + 1 ∧ d = dseq c k := by
  obtain ⟨_, _, i, s, t, rfl, hs, ht, hn, hd⟩ := step_attempt h
  have inv := reachable_inv c r hr
  obtain ⟨_, s', hs', hdl⟩ := found_registered inv ht
  cases hs.symm.trans hs'
  exact ⟨s.attempts, hn, by rw [hd, hdl, inv.1 s hs]⟩

/-- Jitter interval of `addJitter` (exact rational arithmetic, then truncation), for every value
    `x < 1000` of the pseudo-random source and jitter fraction `jnum/jden ≤ 1`:
    (1 − j)·d − 1 < jit d x ≤ (1 + j)·d. -/
theorem jitter_bounds (c : Cfg) (d x : Nat) (hj : c.jnum ≤ c.jden) (hd : 0 < c.jden) (hx : x < 1000) :
    c.jden * jit c d x ≤ d * (c.jden + c.jnum) ∧ d * (c.jden - c.jnum) < c.jden * (jit c d x + 1) := by
  unfold jit
  rw [← Nat.div_div_eq_div_mul]
  -- with N the numerator: 1000·d·(1−j) ≤ N ≤ 1000·d·(1+j), and jit = N / 1000 / jden
  have hlo : 1000 * (d * (c.jden - c.jnum)) ≤ d * (1000 * (c.jden - c.jnum) + 2 * x * c.jnum) := by
    rw [Nat.mul_left_comm]
    exact Nat.mul_le_mul_left d (Nat.le_add_right _ _)
  have hup : d * (1000 * (c.jden - c.jnum) + 2 * x * c.jnum) ≤ 1000 * (d * (c.jden + c.jnum)) := by
    rw [Nat.mul_left_comm 1000]
    refine Nat.mul_le_mul_left d ?_
    have : 2 * x * c.jnum ≤ 2000 * c.jnum := Nat.mul_le_mul_right _ (by omega)
    omega
  constructor
  · exact Nat.le_trans (Nat.mul_div_le _ _) (Nat.div_le_of_le_mul hup)
  · exact Nat.lt_of_le_of_lt ((Nat.le_div_iff_mul_le (by decide)).mpr (by rw [Nat.mul_comm]; exact hlo))
      (Nat.lt_mul_div_succ _ hd)

/-- **Delay bounds**: the timer that starts the k-th consecutive retry runs for
    `jit (dseq k) x` with `(1 − j)·dₖ − 1 < jit ≤ (1 + j)·dₖ`. -/
theorem C31_delay_bounds (c : Cfg) (hj : c.jnum ≤ c.jden) (hd : 0 < c.jden)
    (r : R) (hr : Reachable c r) (l : Label) (n d : Nat) (wp : Bool)
    (h : (step true c r l).2 = some (.attempt n d wp)) (x : Nat) (hx : x < 1000) :
    ∃ k, n = k + 1 ∧ d = dseq c k ∧
      c.jden * jit c d x ≤ dseq c k * (c.jden + c.jnum) ∧
      dseq c k * (c.jden - c.jnum) < c.jden * (jit c d x + 1) := by
  obtain ⟨k, hn, rfl⟩ := C31_delay_seq c r hr l n d wp h
  exact ⟨k, hn, rfl, jitter_bounds c (dseq c k) x hj hd hx⟩

/-- Whole-run form: every attempt emitted along ANY label sequence from the initial state is
    not "while paused" and carries the delay of its position in the backoff sequence. -/
theorem C31_run (c : Cfg) (ls : List Label) :
    ∀ r, Reachable c r → ∀ e ∈ (run true c r ls).2,
      ∃ k, e = .attempt (k + 1) (dseq c k) false := by
  induction ls with
  | nil => exact fun _ _ => List.forall_mem_nil _
  | cons l ls ih =>
    intro r hr
    simp only [run]
    refine List.forall_mem_append.mpr ⟨?_, ih _ (.step r l hr)⟩
    cases hoe : (step true c r l).2 with
    | none => exact List.forall_mem_nil _
    | some e =>
      obtain ⟨n, d, wp⟩ := e
      obtain ⟨k, rfl, rfl⟩ := C31_delay_seq c r hr l n d wp hoe
      obtain ⟨_, rfl⟩ := C31_paused_no_attempt c r l _ _ wp hoe
      exact List.forall_mem_singleton.mpr ⟨k, rfl⟩

/-! ### Atomic-step tie (facts regenerated from internal/peer/reconnect.go by tools/lockshape.go)

  The LTS's steps are the regions under `Reconnector.mu`: every access to `paused`, `states`,
  `closed` in the modelled methods happens under the lock; Schedule / Pause / Resume / ResetAll /
  clearState / Stop are one region each; attemptReconnect is exactly TWO regions (`fire` and
  `ret`) with the callback invoked without the lock, and it reads `paused` under the lock. -/

namespace LockTie
open MM.Gen.LockC31

def acq (m : String) : Option Nat := (acquisitions.find? (fun a => a.1 == m)).map (·.2)
def allW : Bool := accesses.all (fun a => a.2.2.2 == "W")

theorem C31_lock_regions :
    allW = true ∧
    acq "Reconnector.attemptReconnect" = some 2 ∧
    accesses.contains ("Reconnector.attemptReconnect", "paused", false, "W") = true ∧
    calls.contains ("Reconnector.attemptReconnect", "callback", "none") = true ∧
    acq "Reconnector.Schedule" = some 1 ∧ acq "Reconnector.Pause" = some 1 ∧ acq "Reconnector.Resume" = some 1 ∧
    acq "Reconnector.ResetAll" = some 1 ∧ acq "Reconnector.clearState" = some 1 ∧ acq "Reconnector.Stop" = some 1 ∧
    accesses.contains ("Reconnector.Pause", "paused", true, "W") = true ∧
    accesses.contains ("Reconnector.Schedule", "paused", false, "W") = true := by decide +kernel

end LockTie

/-! ### Non-vacuity -/

def cfgEx : Cfg := ⟨1000, 5000, 2, 1, 1, 5, 0⟩

/-- Three consecutive failed attempts through Manager.handleReconnect, a pause while the fourth
    is in flight: delays 1000, 2000, 4000, 5000 (capped), nothing armed after the paused failure. -/
example : (run true cfgEx {} [.schedule, .fire 1, .retFailSched, .fire 3, .retFailSched, .fire 5, .retFailSched,
      .fire 7, .pause, .retFailSched]).2
    = [.attempt 1 1000 false, .attempt 2 2000 false, .attempt 3 4000 false, .attempt 4 5000 false] := by decide

example : (run true cfgEx {} [.schedule, .fire 1, .retFailSched, .fire 3, .retFailSched, .fire 5, .retFailSched,
      .fire 7, .pause, .retFailSched]).1.live = [] := by decide

example : jit cfgEx 1000 0 = 800 ∧ jit cfgEx 1000 999 = 1199 := by decide

/-! ### Shape of the backoff sequence (for multiplier `m = mnum/mden ≥ 1` and `I ≤ M`)

  `dseq_mono`, `dseq_le_max_all`: d₀ ≤ d₁ ≤ … ≤ M.  `dseq_cap_absorbing`: once M, always M.
  `dseq_reaches_cap`: if `I·(m−1) ≥ 1` (each step gains at least 1 ns; without it truncation can
  pin the sequence below the cap, e.g. I = 1 ns, m = 3/2) then dₖ = M for every k ≥ M − I.
  `dseq_step_slack`: a step that is not capped loses less than one nanosecond to truncation:
  dₖ·m < dₖ₊₁ + 1.  (The design's `|dₖ − min(I·mᵏ, M)| < k+1` is false for m > 1: the truncation
  error of step i is multiplied by m in every later step; `dseq_le_geometric` is the true upper
  half, `dseq_step_slack` the per-step lower half.)  The five named first are in Lemmas/C31.lean. -/

/-- The sequence is capped: from the first retry on, `dₖ ≤ M`. -/
theorem dseq_le_max (c : Cfg) (k : Nat) : dseq c (k + 1) ≤ c.M :=
  nextD_le_max c (dseq c k)

/-- ... and never exceeds the un-truncated geometric value: `dₖ · mdenᵏ ≤ I · mnumᵏ`. -/
theorem dseq_le_geometric (c : Cfg) (k : Nat) :
    dseq c k * c.mden ^ k ≤ c.I * c.mnum ^ k := by
  induction k with
  | zero => simp [dseq]
  | succ k ih =>
    have h1 : dseq c (k + 1) * c.mden ≤ dseq c k * c.mnum :=
      Nat.le_trans (Nat.mul_le_mul_right _ (Nat.min_le_left _ _)) (Nat.div_mul_le_self _ _)
    calc dseq c (k + 1) * c.mden ^ (k + 1)
        = dseq c (k + 1) * c.mden * c.mden ^ k := by rw [Nat.pow_succ, Nat.mul_comm (c.mden ^ k), Nat.mul_assoc]
      _ ≤ dseq c k * c.mnum * c.mden ^ k := Nat.mul_le_mul_right _ h1
      _ = dseq c k * c.mden ^ k * c.mnum := Nat.mul_right_comm _ _ _
      _ ≤ c.I * c.mnum ^ k * c.mnum := Nat.mul_le_mul_right _ ih
      _ = c.I * c.mnum ^ (k + 1) := by rw [Nat.pow_succ, Nat.mul_assoc]

example : cfgEx.mden ≤ (cfgEx.mnum - cfgEx.mden) * cfgEx.I ∧ cfgEx.I ≤ cfgEx.M ∧ 0 < cfgEx.mden := by decide
example : dseq cfgEx 2 = 4000 ∧ dseq cfgEx 3 = 5000 ∧ dseq cfgEx 6 = 5000 := by decide

/-! ### n peer addresses (`Sys`, `sysStep` in Model/C31.lean) -/

inductive SysReachable (c : Cfg) : Sys → Prop where
  | init : SysReachable c (fun _ => {})
  | step (s : Sys) (l : SysLabel) : l.wf = true → SysReachable c s → SysReachable c (sysStep c s l).1

/-- Every address on its own is a run of the single-address LTS (steps of other addresses are
    invisible to it). -/
theorem sys_component_reachable (c : Cfg) (s : Sys) (h : SysReachable c s) (a : Nat) : Reachable c (s a) := by
  induction h generalizing a with
  | init => exact .init
  | step s l _ _ ih =>
    cases l with
    | «at» b l =>
      simp only [sysStep]
      split
      · exact .step _ l (ih b)
      · exact ih a
    | all l => exact .step _ l (ih a)

/-- A well-formed system step applies ONE function to the flags of every address. -/
theorem sysStep_flags (c : Cfg) (s : Sys) {l : SysLabel} (hwf : l.wf = true) :
    ∃ f : Bool × Bool → Bool × Bool, ∀ a, flags ((sysStep c s l).1 a) = f (flags (s a)) := by
  cases l with
  | «at» x l =>
    refine ⟨id, fun a => ?_⟩
    simp only [sysStep]
    split
    · subst a; exact (step_keeps c (s x) (by simpa [SysLabel.wf] using hwf)).1
    · rfl
  | all l => exact ⟨flagStep l, fun a => step_flags c (s a) l⟩

theorem sys_flags_eq (c : Cfg) (s : Sys) (h : SysReachable c s) (a b : Nat) : flags (s a) = flags (s b) := by
  induction h generalizing a b with
  | init => rfl
  | step s l hwf _ ih =>
    obtain ⟨f, hf⟩ := sysStep_flags c s hwf
    rw [hf a, hf b, ih a b]

/-- The per-address copies of `paused` / `closed` always agree: the product is a system with ONE
    shared flag, and the flag is the only thing through which addresses influence each other. -/
theorem sys_flags_agree (c : Cfg) (s : Sys) (h : SysReachable c s) (a b : Nat) :
    (s a).paused = (s b).paused ∧ (s a).closed = (s b).closed :=
  Prod.mk.inj (sys_flags_eq c s h a b)

/-- **n addresses**: while the reconnector is paused (the flag of ANY address — they agree) no
    attempt starts for any address, and every attempt of address `a` carries the delay of a's own
    position in the backoff sequence, whatever the other addresses do. -/
theorem C31_sys (c : Cfg) (s : Sys) (h : SysReachable c s) (l : SysLabel) (a n d : Nat) (wp : Bool)
    (he : (sysStep c s l).2 = some (a, .attempt n d wp)) :
    (∀ b, (s b).paused = false) ∧ wp = false ∧ ∃ k, n = k + 1 ∧ d = dseq c k := by
  cases l with
  | all l => cases he
  | «at» x l =>
    obtain ⟨e, hse, hpair⟩ := Option.map_eq_some_iff.mp he
    cases hpair
    obtain ⟨hp, hwp⟩ := C31_paused_no_attempt c (s a) l n d wp hse
    exact ⟨fun b => (sys_flags_agree c s h b a).1.trans hp, hwp,
      C31_delay_seq c (s a) (sys_component_reachable c s h a) l n d wp hse⟩

/-- eight addresses in flight, Pause, every callback fails: nothing is armed anywhere. -/
example :
    let ls : List SysLabel := (List.range 8).map (fun a => .at a .schedule) ++ (List.range 8).map (fun a => .at a (.fire 1)) ++
      [.all .pause] ++ (List.range 8).map (fun a => .at a .retFailSched)
    let s := ls.foldl (fun s l => (sysStep cfgEx s l).1) (fun _ => {})
    (List.range 8).all (fun a => (s a).live.isEmpty && (s a).paused) = true := by decide +kernel

/-! ### Witnesses of the defects of the code before the fix (`fx = false`) -/

/-- Pause while the first attempt is blocked in the callback, then let it fail: the second
    critical section re-arms without looking at `paused`, and the next expiry starts an attempt
    although the reconnector is paused. -/
theorem C31_old_attempt_while_paused :
    (run false cfgEx {} [.schedule, .fire 1, .pause, .retFailSched, .fire 2]).2
      = [.attempt 1 1000 false, .attempt 2 2000 true] := by decide

/-- One failed attempt through Manager.handleReconnect leaves TWO armed timers (the one armed by
    the manager's own Schedule inside the callback is overwritten, not stopped); after the second
    round both timers of that round fire: attempts 3 and 4 both come with delay d₂ = 4000 although
    the 4th attempt is the 3rd consecutive retry (d₃ = 5000) — it follows the 3rd one at once. -/
theorem C31_old_orphan_timer :
    (run false cfgEx {} [.schedule, .fire 1, .retFailSched]).1.live.length = 2 ∧
    (run false cfgEx {} [.schedule, .fire 1, .retFailSched, .fire 2, .retFailSched, .fire 4, .fire 5]).2
      = [.attempt 1 1000 false, .attempt 2 2000 false, .attempt 3 4000 false, .attempt 4 4000 false] ∧
    dseq cfgEx 3 = 5000 := by decide

end MM.C31

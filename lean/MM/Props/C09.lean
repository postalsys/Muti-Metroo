/-
  C09 — Domain, forward-key and agent lookups select the documented best route.

  "A domain lookup prefers an exact pattern, case-insensitively, over a single-level wildcard,
   and never matches a wildcard more than one label deep.  Within the chosen pattern it returns
   the lowest metric.  Forward-key and agent-presence lookups return the lowest-metric route for
   that key or agent, and nothing when none is stored."   For every history of additions,
   removals, disconnects and cleanups.

  Everything is proved for every `S : Str`, i.e. whatever `strings.ToLower` / `strings.TrimSpace`
  do: "case-insensitively" is "equal after `S.fold`".  No ASCII hypothesis is needed.

  Model: MM/Model/C09.lean (instances of the generic table of MM/Model/C08.lean).
-/
import MM.Lemmas.C09

namespace MM.C09
open MM.C08

/-- When a stored domain route applies to a name (both compared lower-cased):
    an exact route when its pattern is the name; a wildcard route `*.base` when the name is
    exactly one non-empty, dot-free label in front of `.base`. -/
def Matches (S : Str) (p : DomPay) (d : Bytes) : Prop :=
  if p.isWild then
    ∃ l, S.fold d = l ++ dot :: S.fold p.base ∧ dot ∉ l ∧ l ≠ [] ∧ S.fold p.base ≠ []
  else S.fold p.pattern = S.fold d

/-- the first component of the map key tells the two maps (`exactRoutes`, `wildcardBase`) apart -/
theorem domKey_fst (S : Str) (p : DomPay) : (domKey S p).1 = p.isWild := by
  unfold domKey; cases p.isWild <;> rfl

theorem matches_iff_key {S : Str} {p : DomPay} {d : Bytes} :
    Matches S p d ↔
      if p.isWild then wildKey (S.fold d) = some (domKey S p) else domKey S p = (false, S.fold d) := by
  unfold Matches domKey
  cases p.isWild with
  | false => simp only [Bool.false_eq_true, if_false, Prod.mk.injEq, true_and]
  | true => simp only [if_true, wildKey_eq_some, true_and]

/-- `matchesB` (used by the checker's `spec` mode) decides `Matches`. -/
theorem matchesB_iff (S : Str) (p : DomPay) (d : Bytes) : matchesB S p d = true ↔ Matches S p d := by
  rw [matches_iff_key]
  unfold matchesB domKey
  cases p.isWild with
  | false => simp
  | true =>
    unfold wildKey
    cases splitDot (S.fold d) <;> simp

/-- The property for one domain table, one name and one answer. -/
def DomBest (S : Str) (t : DTable) (d : Bytes) : Option (Entry DomPay) → Prop
  | some r => r ∈ routes t ∧ Matches S r.pay d ∧
      -- exact before wildcard
      (r.pay.isWild = true → ∀ r' ∈ routes t, r'.pay.isWild = false → ¬ Matches S r'.pay d) ∧
      -- lowest metric among the applicable routes of the chosen kind (= of the chosen pattern)
      (∀ r' ∈ routes t, Matches S r'.pay d → r'.pay.isWild = r.pay.isWild → r.metric ≤ r'.metric)
  | none => ∀ r' ∈ routes t, ¬ Matches S r'.pay d

def C09_statement : Prop :=
  (∀ (S : Str) (self : Nat) (ops : List (Op DKey DomPay)) (d : Bytes),
      DomBest S (run (domCfg S) self ops).tab d (domLookup S (run (domCfg S) self ops).tab d)) ∧
  (∀ (self : Nat) (ops : List (Op Bytes FwdPay)) (k : Bytes),
      KeyBest fwdCfg (run fwdCfg self ops).tab k (fwdLookup (run fwdCfg self ops).tab k)) ∧
  (∀ (self : Nat) (ops : List (Op Nat Nat)) (a : Nat),
      KeyBest agCfg (run agCfg self ops).tab a (agLookup (run agCfg self ops).tab a))

/-! ### invariants for every history -/

theorem C09_inv_domain (S : Str) (self : Nat) (ops : List (Op DKey DomPay)) :
    WF (domCfg S) self (run (domCfg S) self ops).tab := WF_run _ _ _
theorem C09_inv_forward (self : Nat) (ops : List (Op Bytes FwdPay)) :
    WF fwdCfg self (run fwdCfg self ops).tab := WF_run _ _ _
theorem C09_inv_agent (self : Nat) (ops : List (Op Nat Nat)) :
    WF agCfg self (run agCfg self ops).tab := WF_run _ _ _

/-! ### domain lookup -/

/-- **Domain lookup**: exact (case-insensitive) before wildcard; a wildcard only for exactly one
    extra label; lowest metric within the chosen pattern; nothing iff nothing applies. -/
theorem C09_domain_correct {S : Str} {self : Nat} {t : DTable} (hwf : WF (domCfg S) self t) (d : Bytes) :
    DomBest S t d (domLookup S t d) := by
  -- each of the two slices the lookup reads is answered by its best route (`best_correct`);
  -- `matches_iff_key` says that no other slice holds a route that applies
  have hkind {p : DomPay} {k : DKey} (hk : domKey S p = k) : p.isWild = k.1 :=
    (domKey_fst S p).symm.trans (congrArg Prod.fst hk)
  have hx := best_correct hwf (false, S.fold d)
  rw [domLookup_eq]
  generalize best t (false, S.fold d) = bestExact at hx ⊢
  cases bestExact with
  | some r =>
    obtain ⟨hr, hk, hmin⟩ := hx
    have hw : r.pay.isWild = false := hkind hk
    refine ⟨hr, matches_iff_key.mpr (by rw [hw]; exact hk), fun h => (nomatch hw.symm.trans h),
      fun r' hr' hm' hw' => hmin r' hr' ?_⟩
    have hk' := matches_iff_key.mp hm'
    rwa [hw'.trans hw] at hk'
  | none =>
    rw [Option.none_or]
    -- no route has the exact key, so a route that applies is a wildcard route under the wildcard key
    have hwild : ∀ r' ∈ routes t, Matches S r'.pay d →
        r'.pay.isWild = true ∧ wildKey (S.fold d) = some (domKey S r'.pay) := by
      intro r' hr' hm'
      have hk' := matches_iff_key.mp hm'
      generalize r'.pay.isWild = w at hk' ⊢
      cases w with
      | false => exact absurd hk' (hx r' hr')
      | true => exact ⟨rfl, hk'⟩
    cases hw : wildKey (S.fold d) with
    | none => exact fun r' hr' hm' => nomatch hw.symm.trans (hwild r' hr' hm').2
    | some k =>
      have hkey : ∀ r' ∈ routes t, Matches S r'.pay d → domKey S r'.pay = k :=
        fun r' hr' hm' => Option.some.inj ((hwild r' hr' hm').2.symm.trans hw)
      have hy := best_correct hwf k
      rw [Option.bind_some]
      generalize best t k = bestWild at hy ⊢
      cases bestWild with
      | none => exact fun r' hr' hm' => hy r' hr' (hkey r' hr' hm')
      | some r =>
        obtain ⟨hr, hk, hmin⟩ := hy
        have hwr : r.pay.isWild = true := (hkind hk).trans (wildKey_eq_some.mp hw).1
        exact ⟨hr, matches_iff_key.mpr (by rw [hwr]; exact hw.trans (congrArg some hk.symm)),
          fun _ r' hr' hw' hm' => (nomatch hw'.symm.trans (hwild r' hr' hm').1),
          fun r' hr' hm' _ => hmin r' hr' (hkey r' hr' hm')⟩

/-- An exact pattern wins over any wildcard: if some stored exact route applies, the answer is
    an exact route for that name. -/
theorem C09_exact_first {S : Str} {self : Nat} {t : DTable} (hwf : WF (domCfg S) self t) (d : Bytes)
    {e : Entry DomPay} (he : e ∈ routes t) (hw : e.pay.isWild = false) (hm : Matches S e.pay d) :
    ∃ r, domLookup S t d = some r ∧ r.pay.isWild = false ∧ S.fold r.pay.pattern = S.fold d := by
  have h := C09_domain_correct hwf d
  generalize domLookup S t d = res at h ⊢
  cases res with
  | none => exact absurd hm (h e he)
  | some r =>
    obtain ⟨-, hmr, hex, -⟩ := h
    cases hwr : r.pay.isWild with
    | true => exact absurd hm (hex hwr e he hw)
    | false =>
      refine ⟨r, rfl, hwr, ?_⟩
      unfold Matches at hmr; rw [hwr] at hmr; simpa using hmr

/-- A wildcard answer is exactly one label deep. -/
theorem C09_wildcard_one_label {S : Str} {self : Nat} {t : DTable} (hwf : WF (domCfg S) self t) (d : Bytes)
    {r : Entry DomPay} (hl : domLookup S t d = some r) (hw : r.pay.isWild = true) :
    ∃ l, S.fold d = l ++ dot :: S.fold r.pay.base ∧ dot ∉ l ∧ l ≠ [] := by
  have h := C09_domain_correct hwf d
  rw [hl] at h
  have hm := h.2.1
  rw [Matches, if_pos hw] at hm
  exact hm.imp fun l h' => ⟨h'.1, h'.2.1, h'.2.2.1⟩

/-- Nothing is returned exactly when no stored route applies. -/
theorem C09_domain_none_iff {S : Str} {self : Nat} {t : DTable} (hwf : WF (domCfg S) self t) (d : Bytes) :
    domLookup S t d = none ↔ ∀ r ∈ routes t, ¬ Matches S r.pay d := by
  have h := C09_domain_correct hwf d
  generalize domLookup S t d = res at h ⊢
  cases res with
  | none => exact ⟨fun _ => h, fun _ => rfl⟩
  | some r => exact ⟨nofun, fun hall => absurd h.2.1 (hall r h.1)⟩

/-! ### forward-key and agent lookups -/

/-- Lowest metric for the key; nothing iff no route of that key is stored. -/
theorem C09_forward_correct {self : Nat} {t : FTable} (hwf : WF fwdCfg self t) (k : Bytes) :
    KeyBest fwdCfg t k (fwdLookup t k) := best_correct hwf k

theorem C09_agent_correct {self : Nat} {t : ATable} (hwf : WF agCfg self t) (a : Nat) :
    KeyBest agCfg t a (agLookup t a) := best_correct hwf a

/-- **C09 holds**: every history, every name / key / agent. -/
theorem C09_holds : C09_statement :=
  ⟨fun S self ops d => C09_domain_correct (C09_inv_domain S self ops) d,
   fun self ops k => C09_forward_correct (C09_inv_forward self ops) k,
   fun self ops a => C09_agent_correct (C09_inv_agent self ops) a⟩

/-! ### non-vacuity -/

private def dent (pat : Bytes) (o m : Nat) : Entry DomPay :=
  ⟨payOfPattern asciiStr pat, o, o, m, 1, [o], 0⟩

/-- exact beats wildcard whatever the metrics; case is ignored; two labels deep does not match.
    Table: `*.Ex.com` (metric 1), `API.ex.COM` (9), `*.ex.com` (0). -/
example :
    let t := (run (domCfg asciiStr) 1 [.add (dent [42, 46, 69, 120, 46, 99, 111, 109] 2 1), .add (dent [65, 80, 73, 46, 101, 120, 46, 67, 79, 77] 3 9),
                            .add (dent [42, 46, 101, 120, 46, 99, 111, 109] 4 0)]).tab
    -- api.EX.com → the exact route
    (domLookup asciiStr t [97, 112, 105, 46, 69, 88, 46, 99, 111, 109]).map (·.metric) = some 9 ∧
    -- www.ex.com → the cheapest wildcard
    (domLookup asciiStr t [119, 119, 119, 46, 101, 120, 46, 99, 111, 109]).map (·.metric) = some 0 ∧
    -- a.b.ex.com, ex.com, .ex.com → nothing
    domLookup asciiStr t [97, 46, 98, 46, 101, 120, 46, 99, 111, 109] = none ∧
    domLookup asciiStr t [101, 120, 46, 99, 111, 109] = none ∧
    domLookup asciiStr t [46, 101, 120, 46, 99, 111, 109] = none := by decide +kernel

/-- `*.Ex.com` (1), `API.ex.COM` (9), `*.ex.com` (0) -/
private def tD : DTable :=
  (run (domCfg asciiStr) 1 [.add (dent [42, 46, 69, 120, 46, 99, 111, 109] 2 1),
    .add (dent [65, 80, 73, 46, 101, 120, 46, 67, 79, 77] 3 9),
    .add (dent [42, 46, 101, 120, 46, 99, 111, 109] 4 0)]).tab

/-- hypotheses of `C09_domain_correct` / `C09_domain_none_iff`: a well-formed table with an exact
    and a wildcard slice -/
example : WF (domCfg asciiStr) 1 tD ∧ (routes tD).length = 3 ∧ tD.length = 2 :=
  ⟨C09_inv_domain asciiStr 1 _, by decide, by decide⟩

/-- hypotheses of `C09_exact_first`: a stored exact route that applies to `api.EX.com` -/
example : ∃ e ∈ routes tD, e.pay.isWild = false ∧
    Matches asciiStr e.pay [97, 112, 105, 46, 69, 88, 46, 99, 111, 109] :=
  ⟨dent [65, 80, 73, 46, 101, 120, 46, 67, 79, 77] 3 9, by decide +kernel, by decide +kernel,
    (matchesB_iff _ _ _).mp (by decide +kernel)⟩

/-- hypotheses of `C09_wildcard_one_label`: `www.ex.com` is answered by a wildcard route -/
example : ∃ r, domLookup asciiStr tD [119, 119, 119, 46, 101, 120, 46, 99, 111, 109] = some r ∧
    r.pay.isWild = true :=
  ⟨dent [42, 46, 101, 120, 46, 99, 111, 109] 4 0, by decide +kernel, by decide +kernel⟩

/-- hypotheses of `C09_forward_correct` / `C09_agent_correct`: well-formed tables with two routes
    under one key, the cheaper one answered -/
example :
    let tF := (run fwdCfg 1 [.add ⟨⟨[119], [104]⟩, 2, 2, 5, 1, [2], 0⟩, .add ⟨⟨[119], [104]⟩, 3, 3, 4, 1, [3], 0⟩]).tab
    let tA := (run agCfg 1 [.add ⟨7, 2, 7, 3, 1, [2, 7], 0⟩, .add ⟨7, 3, 7, 2, 1, [3, 7], 0⟩]).tab
    WF fwdCfg 1 tF ∧ WF agCfg 1 tA ∧ (fwdLookup tF [119]).map (·.metric) = some 4 ∧
    (agLookup tA 7).map (·.nextHop) = some 3 :=
  ⟨C09_inv_forward 1 _, C09_inv_agent 1 _, by decide, by decide⟩

end MM.C09

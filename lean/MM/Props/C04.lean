/-
  C04 — Transit agents see only ciphertext of tunnelled application data.

  "When a tunnel crosses transit agents, every application byte in a frame relayed between ingress
   and exit is sealed under that tunnel's end-to-end key.  Transit agents never hold that key.  This
   applies to TCP streams, port forwards, UDP datagrams, and ICMP echo payloads exchanged between
   honest endpoints."

  Model: MM/Model/C04.lean (symbolic).  The property is proved for a RELAYING transit (it forwards
  the open/ack frames it is given — the situation the statement describes), for every zero-key
  table, i.e. for the pinned tree and the repaired one alike.

  The stronger variant against a transit that REWRITES the ephemeral key fields is
  `C04_statement_active`.  It is refuted for every table by key substitution
  (`C04_active_refuted_mitm`: ephemeral keys are unauthenticated — a protocol limit).  Against a
  transit that can only forward or ZERO the key fields:
    * on the pinned tree it is refuted too (`C04_pinned_zero_key_downgrade`): zeroing the key in a
      UDP/ICMP open switches both honest ends to plaintext — no key needed;
    * once the ingress refuses a key-less ack (fixes/C04-ingress-requires-ephemeral-key.patch) it
      holds for every kind (`C04_active_partial`).

  Tie: engine `c04` (harness/main/eng_c04.go): unit-level ops, probes regenerated into MM/Gen/C04.lean,
  and a 3-agent in-process mesh of real agents with a tap on the transit — passive for every tunnel
  kind, and ACTIVE for UDP (the tap zeroes the key fields of UDP_OPEN / UDP_OPEN_ACK).
-/
import MM.Model.C04

namespace MM.C04

/-- The session key behind a relaying transit. -/
def sessionKey (req : Nat) : Term := .kdf (.shared .ingress .exit) req (.pub .ingress) (.pub .exit)

/-- Both honest ends pick the same key behind a relaying transit, whatever the zero-key tables
    (C03 in symbolic form). -/
theorem C04_same_key (T : Tables) (kd : Kind) (req : Nat) :
    exitMode T kd req passive = .sealWith (sessionKey req) ∧
    ingressMode T kd req passive = .sealWith (sessionKey req) := ⟨rfl, rfl⟩

theorem mem_dataFrames_sealed {k : Term} {pfx ctr : Nat} {cs : List Nat} {f : Frame}
    (hf : f ∈ dataFrames (.sealWith k) pfx ctr cs) :
    ∃ c n, f = ⟨.data, [.sealed k pfx n (.atom c)]⟩ ∧ c ∈ cs := by
  induction cs generalizing ctr with
  | nil => cases hf
  | cons c cs ih =>
    rcases List.mem_cons.mp hf with rfl | h
    · exact ⟨c, ctr, rfl, .head _⟩
    · obtain ⟨c', n, hc, hm⟩ := ih h
      exact ⟨c', n, hc, .tail _ hm⟩

theorem mem_dataFrames_plain {pfx ctr : Nat} {cs : List Nat} {f : Frame}
    (hf : f ∈ dataFrames .plaintext pfx ctr cs) : ∃ c, f = ⟨.data, [.atom c]⟩ := by
  induction cs generalizing ctr with
  | nil => cases hf
  | cons c cs ih =>
    rcases List.mem_cons.mp hf with rfl | h
    · exact ⟨c, rfl⟩
    · exact ih h

theorem dataFrames_refuse (pfx : Nat) (cs : List Nat) (ctr : Nat) : dataFrames .refuse pfx ctr cs = [] := by
  cases cs <;> rfl

/-- Every frame that crosses the transit, whatever it does to the key fields (an exit in plaintext
    mode sends data only to an ingress that came up). -/
theorem mem_wireWith {T : Tables} {kd : Kind} {t : Tamper} {req dest bound : Nat} {up down : List Nat}
    {f : Frame} (hf : f ∈ wireWith T kd t req dest bound up down) :
    f ∈ dataFrames (ingressMode T kd req t) 0 0 up ∨
    (f ∈ dataFrames (exitMode T kd req t) 0x80000000 0 down ∧
      (exitMode T kd req t = .plaintext → (ingressMode T kd req t).established = true)) ∨
    f = ⟨.openF, [.const req, .const dest, .pub .ingress]⟩ ∨
    f = ⟨.ack, [.const req, .const bound, .zeroKey]⟩ ∨
    f = ⟨.ack, [.const req, .const bound, .pub .exit]⟩ := by
  rcases List.mem_cons.mp hf with h | h
  · exact .inr (.inr (.inl h))
  rcases List.mem_append.mp h with h | h
  · exact .inl h
  -- the exit refused, runs in plaintext, or seals under `k`
  split at h
  next => cases h
  next he =>
    rcases List.mem_cons.mp h with h | h
    · exact .inr (.inr (.inr (.inl h)))
    · split at h
      next hest => exact .inr (.inl ⟨he ▸ h, fun _ => hest⟩)
      next => cases h
  next k he =>
    rcases List.mem_cons.mp h with h | h
    · exact .inr (.inr (.inr (.inr h)))
    · exact .inr (.inl ⟨he ▸ h, fun hp => nomatch he.symm.trans hp⟩)

/-- C04 (i): behind a relaying transit, for EVERY tunnel kind, zero-key table, request id,
    destination and payload in either direction, every data frame's application field is
    `sealed sessionKey (dir, ctr) chunk`. -/
theorem C04_payload_sealed (T : Tables) (kd : Kind) (req dest bound : Nat) (up down : List Nat) :
    ∀ f ∈ wireWith T kd passive req dest bound up down, f.typ = .data →
      ∃ c pfx n, f = ⟨.data, [.sealed (sessionKey req) pfx n (.atom c)]⟩ := by
  intro f hf hd
  rcases mem_wireWith hf with h | ⟨h, _⟩ | rfl | rfl | rfl
  -- both modes reduce to `.sealWith (sessionKey req)` (`C04_same_key`)
  · obtain ⟨c, n, hc, _⟩ := mem_dataFrames_sealed (k := sessionKey req) h
    exact ⟨c, _, n, hc⟩
  · obtain ⟨c, n, hc, _⟩ := mem_dataFrames_sealed (k := sessionKey req) h
    exact ⟨c, _, n, hc⟩
  all_goals cases hd

theorem dataFrames_no_secret {m : Mode} {pfx ctr : Nat} {cs : List Nat} {f : Frame}
    (hf : f ∈ dataFrames m pfx ctr cs) : ∀ x ∈ f.fields, isSecretMaterial x = false := by
  cases m with
  | sealWith k =>
    obtain ⟨c, n, rfl, _⟩ := mem_dataFrames_sealed hf
    exact List.forall_mem_singleton.mpr rfl
  | plaintext =>
    obtain ⟨c, rfl⟩ := mem_dataFrames_plain hf
    exact List.forall_mem_singleton.mpr rfl
  | refuse => rw [dataFrames_refuse] at hf; cases hf

/-- C04 (ii): no frame field is a private key, a shared secret or a derived key — for ANY table and
    ANY transit behaviour (frames carry only public keys, public constants and sealed/plain chunks). -/
theorem C04_key_not_on_wire (T : Tables) (kd : Kind) (t : Tamper) (req dest bound : Nat) (up down : List Nat) :
    ∀ f ∈ wireWith T kd t req dest bound up down, ∀ x ∈ f.fields, isSecretMaterial x = false := by
  intro f hf
  rcases mem_wireWith hf with h | ⟨h, _⟩ | rfl | rfl | rfl
  · exact dataFrames_no_secret h
  · exact dataFrames_no_secret h
  -- the open and the acks: two public constants and a public key field
  all_goals
    exact List.forall_mem_cons.mpr ⟨rfl, List.forall_mem_cons.mpr ⟨rfl, List.forall_mem_singleton.mpr rfl⟩⟩

/-- Modes of the two ends that leave a transit without the session key nothing to read: each end
    seals under the session key or refuses — or the exit runs in plaintext towards an ingress that
    refused (and so never relays anything for the exit to answer). -/
structure Opaque (T : Tables) (kd : Kind) (req : Nat) (t : Tamper) : Prop where
  ingress : ingressMode T kd req t = .sealWith (sessionKey req) ∨ ingressMode T kd req t = .refuse
  exit : (exitMode T kd req t = .sealWith (sessionKey req) ∨ exitMode T kd req t = .refuse) ∨
    exitMode T kd req t = .plaintext ∧ ingressMode T kd req t = .refuse

theorem dataFrames_invisible {m : Mode} {req pfx ctr : Nat} {cs : List Nat} {f : Frame}
    (hm : m = .sealWith (sessionKey req) ∨ m = .refuse) (hf : f ∈ dataFrames m pfx ctr cs) :
    visibleFrame [.transit] f = [] := by
  rcases hm with rfl | rfl
  · obtain ⟨c, n, rfl, _⟩ := mem_dataFrames_sealed hf
    rfl
  · rw [dataFrames_refuse] at hf; cases hf

theorem wire_invisible {T : Tables} {kd : Kind} {t : Tamper} {req : Nat} (h : Opaque T kd req t)
    (dest bound : Nat) (up down : List Nat) :
    ∀ f ∈ wireWith T kd t req dest bound up down, visibleFrame [.transit] f = [] := by
  intro f hf
  rcases mem_wireWith hf with hf | ⟨hf, hgate⟩ | rfl | rfl | rfl
  · exact dataFrames_invisible h.ingress hf
  · rcases h.exit with he | ⟨he, hi⟩
    · exact dataFrames_invisible he hf
    · rw [hi] at hgate; cases hgate he
  all_goals rfl

/-- C04 (iii): a relaying transit — knowing its own private key and everything on the wire — reads no
    application atom in any frame, for every tunnel kind, table and payload. -/
theorem C04_transit_reads_nothing (T : Tables) (kd : Kind) (req dest bound : Nat) (up down : List Nat) :
    ∀ f ∈ wireWith T kd passive req dest bound up down, visibleFrame [.transit] f = [] :=
  wire_invisible ⟨.inl rfl, .inl (.inl rfl)⟩ dest bound up down

/-! ### explicit coverage: tunnel kind × direction × fault/close phase -/

inductive Direction where
  | up      -- ingress -> exit
  | down    -- exit -> ingress
  deriving Repr, DecidableEq

/-- What happens to a sender's chunk sequence on the way to the link. -/
inductive PhaseTag where
  | steady            -- every chunk is handed to the link once
  | closeMidWrite     -- the tunnel is torn down in the middle of a multi-chunk write: a prefix goes out
  | writeFaultRetry   -- handing chunk k to the link fails once and is repeated (re-sealed, next counter)
  deriving Repr, DecidableEq

/-- The chunks an endpoint actually seals and hands to the link (`k` = where the close / fault hits). -/
def emitted : PhaseTag → Nat → List Nat → List Nat
  | .steady, _, cs => cs
  | .closeMidWrite, k, cs => cs.take k
  | .writeFaultRetry, k, cs => cs.take (k + 1) ++ cs.drop k

/-- The cases the symbolic model covers (the engine's mesh / handler ops exercise the same grid:
    `mesh <kind>`, `mesh tcpclose`, `hs new <kind> <failk>`). -/
def coverage : List (Kind × Direction × PhaseTag) :=
  Kind.all.flatMap fun kd => [Direction.up, .down].flatMap fun d =>
    [PhaseTag.steady, .closeMidWrite, .writeFaultRetry].map fun p => (kd, d, p)

/-- The list is the full grid: 6 kinds × 2 directions × 3 phases, nothing left out. -/
theorem C04_coverage_complete :
    coverage.length = 36 ∧ ∀ (kd : Kind) (d : Direction) (p : PhaseTag), (kd, d, p) ∈ coverage := by
  refine ⟨by decide, fun kd d p => ?_⟩
  -- the grid is the product of three lists, each of which has every constructor
  have hk : kd ∈ Kind.all := by cases kd <;> decide
  have hd : d ∈ [Direction.up, .down] := by cases d <;> decide
  have hp : p ∈ [PhaseTag.steady, .closeMidWrite, .writeFaultRetry] := by cases p <;> decide
  exact List.mem_flatMap.mpr ⟨kd, hk, List.mem_flatMap.mpr ⟨d, hd, List.mem_map.mpr ⟨p, hp, rfl⟩⟩⟩

/-- Whatever sub-sequence with repetitions of its chunks an honest end seals (any phase, any cut
    point `k`), every data frame it emits is one of those chunks sealed under the session key with
    its direction prefix. -/
theorem sealed_any_phase (req pfx : Nat) (p : PhaseTag) (k : Nat) (cs : List Nat) :
    ∀ f ∈ dataFrames (.sealWith (sessionKey req)) pfx 0 (emitted p k cs),
      ∃ c n, f = ⟨.data, [.sealed (sessionKey req) pfx n (.atom c)]⟩ ∧ c ∈ cs := by
  intro f hf
  obtain ⟨c, n, hc, hm⟩ := mem_dataFrames_sealed hf
  refine ⟨c, n, hc, ?_⟩
  cases p with
  | steady => exact hm
  | closeMidWrite => exact List.mem_of_mem_take hm
  | writeFaultRetry => exact (List.mem_append.mp hm).elim List.mem_of_mem_take List.mem_of_mem_drop

/-- `C04_payload_sealed` at EACH case (kind, direction, phase) of `coverage`, for every zero-key
    table, cut point and payload. -/
theorem C04_payload_sealed_each :
    ∀ c ∈ coverage, ∀ (T : Tables) (k req dest bound : Nat) (up down : List Nat),
      let (kd, d, p) := c
      let up' := if d = .up then emitted p k up else up
      let down' := if d = .down then emitted p k down else down
      ∀ f ∈ wireWith T kd passive req dest bound up' down', f.typ = .data →
        ∃ ch pfx n, f = ⟨.data, [.sealed (sessionKey req) pfx n (.atom ch)]⟩ :=
  fun ⟨kd, _, _⟩ _ T _ req dest bound _ _ => C04_payload_sealed T kd req dest bound _ _

/-- …and nothing the sender did not hand in appears: a sealed chunk is one of the sender's chunks. -/
example : ∀ f ∈ dataFrames (.sealWith (sessionKey 1)) 0 0 (emitted .writeFaultRetry 1 [7, 8, 9]),
    ∃ c n, f = ⟨.data, [.sealed (sessionKey 1) 0 n (.atom c)]⟩ ∧ c ∈ [7, 8, 9] :=
  sealed_any_phase 1 0 .writeFaultRetry 1 [7, 8, 9]

/-- The phases are not vacuous: a retry really repeats a chunk, a close really cuts. -/
example : emitted .writeFaultRetry 1 [7, 8, 9] = [7, 8, 8, 9] ∧ emitted .closeMidWrite 2 [7, 8, 9] = [7, 8] ∧
    (wireWith pinnedT .forward passive 1 2 3 (emitted .closeMidWrite 1 [7, 8]) []).length = 3 := by decide

/-! ### the active variant -/

/-- Statement against a transit that may REWRITE the key fields (forward, zero, or substitute its
    own key): still no application atom readable. -/
def C04_statement_active (T : Tables) : Prop :=
  ∀ (kd : Kind) (t : Tamper) (req dest bound : Nat) (up down : List Nat),
    ∀ f ∈ wireWith T kd t req dest bound up down, visibleFrame [.transit] f = []

/-- Refuted for EVERY table by key substitution (the ephemeral keys are not authenticated): the
    transit hands each end its own public key and reads the TCP stream.  A property of the protocol,
    not of an implementation slip; it is why the proved statement is about a relaying transit. -/
theorem C04_active_refuted_mitm (T : Tables) : ¬ C04_statement_active T := by
  intro h
  -- the frame after the open: the ingress sealed it under the key it shares with the transit
  have := h .tcp ⟨.own, .own⟩ 1 2 3 [7] [8]
    ⟨.data, [.sealed (.kdf (.shared .ingress .transit) 1 (.pub .ingress) (.pub .transit)) 0 0 (.atom 7)]⟩
    (.tail _ (.head _))
  exact absurd this (by decide)

/-- What the pinned tree did: the transit zeroes the key field of a UDP open — no key of its own
    needed.  The exit answers with a key-less ack, both honest ends run in plaintext mode, and the
    datagrams of both directions cross the transit readable. -/
theorem C04_pinned_zero_key_downgrade :
    ⟨.data, [.atom 7]⟩ ∈ wireWith pinnedT .udp ⟨.zero, .keep⟩ 1 2 3 [7] [8] ∧
    ⟨.data, [.atom 8]⟩ ∈ wireWith pinnedT .udp ⟨.zero, .keep⟩ 1 2 3 [7] [8] ∧
    visibleFrame [.transit] ⟨.data, [.atom 7]⟩ = [7] ∧
    ⟨.data, [.atom 7]⟩ ∈ wireWith pinnedT .icmp ⟨.zero, .zero⟩ 1 2 3 [7] [8] := by decide

/-- The same tampering once the ingress refuses a key-less ack: the open and the exit's key-less ack,
    and not a single data frame. -/
theorem C04_ingress_fixed_zero_key (req dest bound : Nat) (up down : List Nat) :
    wireWith ingressFixedT .udp ⟨.zero, .keep⟩ req dest bound up down =
      [⟨.openF, [.const req, .const dest, .pub .ingress]⟩, ⟨.ack, [.const req, .const bound, .zeroKey]⟩] := by
  have he : exitMode ingressFixedT .udp req ⟨.zero, .keep⟩ = .plaintext := rfl
  have hi : ingressMode ingressFixedT .udp req ⟨.zero, .keep⟩ = .refuse := rfl
  rw [wireWith, he, hi, dataFrames_refuse]
  rfl

/-- Strongest true restriction of the active statement: if the ingress never falls back (whatever
    the exit side does) and the transit can only forward or ZERO the key fields (no key of its own),
    NO tunnel kind leaks anything — a zeroed key stops the tunnel instead of downgrading it. -/
theorem C04_active_partial (T : Tables) (hT : ∀ kd, T.ingress kd = false) (kd : Kind) (t : Tamper)
    (ho : t.onOpen ≠ .own) (ha : t.onAck ≠ .own) (req dest bound : Nat) (up down : List Nat) :
    ∀ f ∈ wireWith T kd t req dest bound up down, visibleFrame [.transit] f = [] := by
  -- Each end sees the other's real key or none.  The exit then seals under the session key, refuses,
  -- or (zeroed open, fallback table) runs in plaintext and acks without a key — which the ingress
  -- refuses whatever the transit does to that ack.
  refine wire_invisible ?_ dest bound up down
  have hI := hT kd
  obtain ⟨eo, ea⟩ := t
  cases eo with
  | own => exact absurd rfl ho
  | keep =>
    cases ea with
    | own => exact absurd rfl ha
    | keep => exact ⟨.inl rfl, .inl (.inl rfl)⟩
    | zero =>
      exact ⟨.inr (by simp [ingressMode, exitMode, ackKey, decideWith, KeyEdit.apply, hI]), .inl (.inl rfl)⟩
  | zero =>
    have hi : ingressMode T kd req ⟨.zero, ea⟩ = .refuse := by
      -- no ack from an exit that refused; a key-less one, kept or zeroed (`ha`), from one in plaintext
      cases hE : T.exit kd <;> cases ea <;>
        simp [ingressMode, exitMode, ackKey, decideWith, KeyEdit.apply, hI, hE] at ha ⊢
    refine ⟨.inr hi, ?_⟩
    cases hE : T.exit kd
    · exact .inl (.inr (by simp [exitMode, decideWith, KeyEdit.apply, hE]))
    · exact .inr ⟨by simp [exitMode, decideWith, KeyEdit.apply, hE], hi⟩

/-- `C04_active_partial` applies to the repaired ingress; and the kinds that had the plaintext
    fallback on the pinned tree were exactly UDP and ICMP. -/
theorem C04_pinned_fallback_kinds :
    Kind.all.filter fallbackV0 = [.udp, .icmp] ∧ (∀ kd ∈ Kind.all, ingressFixedT.ingress kd = false) := by
  decide

/-! ### non-vacuity -/

example : wireWith pinnedT .tcp passive 1 2 3 [7] [8] =
    [⟨.openF, [.const 1, .const 2, .pub .ingress]⟩,
     ⟨.data, [.sealed (sessionKey 1) 0 0 (.atom 7)]⟩,
     ⟨.ack, [.const 1, .const 3, .pub .exit]⟩,
     ⟨.data, [.sealed (sessionKey 1) 0x80000000 0 (.atom 8)]⟩] := by decide

/-- The endpoints themselves DO read the payload (the seal is not opaque to everyone). -/
example : visibleFrame [.exit] ⟨.data, [.sealed (sessionKey 1) 0 0 (.atom 7)]⟩ = [7] := by decide

end MM.C04

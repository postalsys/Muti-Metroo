/-
  C22 — SOCKS5 UDP associations relay only for their own client.

  "Datagrams arriving at a UDP association's relay socket are forwarded into the mesh only if they
   come from the client that owns the association.  Replies are sent only to that client."

  Model: MM/Model/C22.lean, of the code AS FIXED by fixes/C22-udp-owner-control-ip.patch (source
  checked against the peer IP of the TCP control connection, and the reply destination recorded
  only AFTER the checks).  Owner = the host at the other end of the control connection; when the
  connection does not expose a peer address, the host the client declared in its request.

  The full statement is false for one class of associations (open finding
  C22-ownerless-control-connection): a control connection without a TCP peer address (SOCKS5 over
  WebSocket: `wsConn.RemoteAddr()` is nil) whose request declares no client address has NO owner
  the relay could check, and the first sender — whoever it is — is relayed and receives the replies.
-/
import MM.Lemmas.C22

namespace MM.C22

/-- Shape of what `handleUDPAssociate` can be given: a declared IP is 4 or 16 bytes. -/
def wfRequest (destIP : Option Bytes) : Prop := ∀ ip, destIP = some ip → ip.length = 4 ∨ ip.length = 16

/-- The property, for an association created with control peer `ctrl` and declared address
    `(destIP, port)`, after ANY sequence of datagrams `dgs` from any senders: a datagram from
    `src` is relayed only if the association has an owner and `src` is the owner; and replies go
    to the owner. -/
def holdsFor (ctrl destIP : Option Bytes) (port : Nat) : Prop :=
  ∀ (dgs : List (Addr × Bool)) (src : Addr) (valid : Bool),
    let st := run (initSt ctrl destIP port) dgs
    ((recv st src valid).2 = true → ∃ o, owner st = some o ∧ ipEqual src.ip o = true) ∧
    (∀ a, replyDest (recv st src valid).1 = some a → ∃ o, owner st = some o ∧ ipEqual a.ip o = true)

/-- C22 at full strength: for every control connection and every request. -/
def C22_statement : Prop :=
  ∀ (ctrl destIP : Option Bytes) (port : Nat), wfRequest destIP → holdsFor ctrl destIP port

/-- Refutation (open finding C22-ownerless-control-connection): no peer address on the control
    connection, no declared address; a datagram from 127.0.0.9 is relayed although the association
    has no owner to compare it with. -/
theorem C22_refuted : ¬ C22_statement := by
  intro h
  -- the datagram is relayed, so the statement promises an owner; this association has none
  obtain ⟨o, ho, _⟩ := (h none none 0 nofun [] ⟨[127, 0, 0, 9], 4000⟩ true).1 (by decide)
  cases ho

/-- The association has an owner the relay can check: the control connection exposes its peer
    IP, or the request declares a (specified) client address. Decidable. -/
def hasOwner (ctrl destIP : Option Bytes) (port : Nat) : Bool := (owner (initSt ctrl destIP port)).isSome

/-- **C22 for every association that has an owner** — in particular for every association whose
    control connection is a plain TCP connection (the SOCKS5 listener), with or without a declared
    client address, for any senders and any arrival order. -/
theorem C22_partial (ctrl destIP : Option Bytes) (port : Nat) (hreq : wfRequest destIP)
    (hown : hasOwner ctrl destIP port = true) : holdsFor ctrl destIP port := by
  intro dgs src valid
  dsimp only
  -- the state after the run is the initial one with another reply destination `a`, which is an
  -- accepted source; `owner` and `accepts` do not read it
  obtain ⟨a, hrun, ha⟩ := run_eq (initSt ctrl destIP port) dgs
  obtain ⟨o, ho⟩ := Option.isSome_iff_exists.mp hown
  have hacc : ∀ x, accepts (initSt ctrl destIP port) x = true → ipEqual x.ip o = true :=
    fun _ => accepts_owner (wfExpected_init ctrl destIP port hreq) ho
  rw [hrun]
  refine ⟨fun hrel => ⟨o, ho, hacc src ?_⟩, fun a' ha' => ⟨o, ho, ?_⟩⟩
  · unfold recv at hrel
    split at hrel
    · assumption
    · cases hrel
  · rcases recv_fst { initSt ctrl destIP port with actual := a } src valid with e | ⟨hsrc, e⟩ <;>
      rw [e] at ha'
    · -- the destination is `a`: none at the start, or a source accepted during the run
      obtain h | ⟨x, h, hx⟩ := ha
      · cases h.symm.trans ha'
      · cases h.symm.trans ha'
        exact hacc _ hx
    · -- the destination is this datagram's source, just accepted
      cases ha'
      exact hacc src hsrc

/-- Plain TCP control connection from `o` (nil/IPv4/IPv6 declared address alike): the property
    holds with owner `o`. -/
theorem C22_tcp (o : Bytes) (ho : o.length ≠ 0) (destIP : Option Bytes) (port : Nat)
    (hreq : wfRequest destIP) : holdsFor (some o) destIP port := by
  apply C22_partial (some o) destIP port hreq
  unfold hasOwner owner initSt
  have : (o.length == 0) = false := by simpa using ho
  simp [this]

/-! ### port-level ownership (open finding C22-same-host-other-port)

  `C22_partial` identifies "its own client" with a HOST (the IP check RFC 1928 asks for).  Read as
  a (host, port) endpoint — the one the first accepted datagram (or the request) fixed — the
  statement fails: another socket on the owner's host (another local user; another machine behind
  the same NAT address) is relayed too. -/

/-- Once the first accepted datagram has fixed the client's endpoint, only that port is relayed. -/
def C22_port_statement : Prop :=
  ∀ (ctrl destIP : Option Bytes) (port : Nat), wfRequest destIP →
    ∀ (dgs : List (Addr × Bool)) (src : Addr) (valid : Bool),
      let st := run (initSt ctrl destIP port) dgs
      (recv st src valid).2 = true → ∀ a, st.actual = some a → src.port = a.port

/-- Witness: TCP control connection from 127.0.0.1; the client's socket (port 4001) sends first, then
    a second socket on 127.0.0.1 (port 4004) sends and is relayed. -/
theorem C22_port_refuted : ¬ C22_port_statement := by
  intro h
  have := h (some [127, 0, 0, 1]) none 0 nofun
    [(⟨[127, 0, 0, 1], 4001⟩, true)] ⟨[127, 0, 0, 1], 4004⟩ true (by decide)
    ⟨[127, 0, 0, 1], 4001⟩ (by decide)
  exact absurd this (by decide)

/-! ### non-vacuity and the two facets of the repaired defect -/

def c1 : Addr := ⟨[127, 0, 0, 1], 4001⟩     -- the client
def x2 : Addr := ⟨[127, 0, 0, 2], 4002⟩     -- a stranger

/-- TCP control connection from 127.0.0.1, nothing declared: a stranger who sends first is neither
    relayed nor becomes the reply destination; the client is relayed and gets the replies. -/
example :
    let st := run (initSt (some [127, 0, 0, 1]) none 0) [(x2, true)]
    (recv (initSt (some [127, 0, 0, 1]) none 0) x2 true).2 = false ∧ replyDest st = none ∧
    (recv st c1 true).2 = true ∧ replyDest (recv st c1 true).1 = some c1 := by decide

/-- Declared address and a stranger who sends first: the stranger does not become the reply
    destination (the unfixed code recorded the first sender BEFORE the filter). -/
example :
    let st := run (initSt none (some [127, 0, 0, 1]) 4001) [(x2, true), (c1, true)]
    replyDest st = some c1 := by decide

example : hasOwner (some [127, 0, 0, 1]) none 0 = true := by decide
example : hasOwner none (some [0, 0, 0, 0]) 0 = false := by decide

end MM.C22

import MM.Gen.LockC11
import MM.Gen.LockC11m
import MM.Gen.LockC11t
import MM.Gen.LockC11d
import MM.Gen.LockC11f
import MM.Gen.LockC11a

/-
  Atomic-step ties for the flood LTS (C11–C15).

  The LTS `MM/Model/C11.lean` treats as ONE atomic step of an agent: the seen-cache test-and-set of
  HandleRouteAdvertise / HandleRouteWithdraw (`handle`: `key ∈ seen → … else mark`), the allocation
  of a sequence number (`seq + 1` in announce / replay / withdraw), and each table's AddRoute.
  `C11_once_cached`, `C11_forward_once`, `C14_partial` (sequence numbers issued once) rest on
  that granularity, and a sequential differential run cannot see it.  The facts below are
  regenerated from the source by tools/lockshape.go on every run; the theorems state exactly what
  the proofs need:

  * in each handler the seen-cache lookup and the insert happen in the SAME write-locked region
    (one lock acquisition in the method, both a read and a write of `seenCache` under `W`, no
    access under any other lock state);
  * `IncrementSequence` reads and writes `sequence` inside one write-locked region;
  * every table's `AddRoute` touches its route map only under its write lock, acquired once.
-/
namespace MM.C11.Lock
open MM.Gen

/-- All accesses of `method` to `field` are under the write lock, there is at least one read and one
    write, and the method takes the lock exactly once: check and update are one critical section. -/
def oneWriteSection (acq : List (String × Nat)) (acc : List (String × String × Bool × String))
    (method field : String) : Bool :=
  acq.contains (method, 1) &&
  acc.contains (method, field, false, "W") &&
  acc.contains (method, field, true, "W") &&
  (acc.filter (fun a => a.1 == method && a.2.1 == field)).all (fun a => a.2.2.2 == "W")

theorem advertise_test_and_set_atomic :
    oneWriteSection LockC11.acquisitions LockC11.accesses "Flooder.HandleRouteAdvertise" "seenCache" = true := by
  decide +kernel

theorem withdraw_test_and_set_atomic :
    oneWriteSection LockC11.acquisitions LockC11.accesses "Flooder.HandleRouteWithdraw" "seenCache" = true := by
  decide +kernel

/-- Neither handler delegates the insert to a sibling method called outside the lock. -/
theorem no_unlocked_mark_helper :
    (LockC11.calls.filter (fun c => (c.1 == "Flooder.HandleRouteAdvertise" || c.1 == "Flooder.HandleRouteWithdraw")
      && c.2.1 != "floodAdvertisementEncrypted" && c.2.1 != "floodWithdrawal")) = [] := by decide +kernel

theorem sequence_increment_atomic :
    oneWriteSection LockC11m.acquisitions LockC11m.accesses "Manager.IncrementSequence" "sequence" = true := by
  decide +kernel

theorem addRoute_atomic :
    oneWriteSection LockC11t.acquisitions LockC11t.accesses "Table.AddRoute" "routes" = true ∧
    oneWriteSection LockC11f.acquisitions LockC11f.accesses "ForwardTable.AddRoute" "routes" = true ∧
    oneWriteSection LockC11a.acquisitions LockC11a.accesses "AgentTable.AddRoute" "routes" = true ∧
    LockC11d.acquisitions.contains ("DomainTable.AddRoute", 1) = true ∧
    LockC11d.calls.contains ("DomainTable.AddRoute", "routeMapAndKey", "W") = true ∧
    (LockC11d.accesses.filter (fun a => a.1 == "DomainTable.AddRoute")).all (fun a => a.2.2.2 == "W") = true := by
  decide +kernel

end MM.C11.Lock

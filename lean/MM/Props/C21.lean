/-
  C21 — SOCKS5 never serves an unauthenticated client when authentication is enabled.

  "If SOCKS5 authentication is enabled, no CONNECT, UDP ASSOCIATE or ICMP command is executed for
   a client that has not presented credentials matching a configured user.  This holds for any
   client byte sequence, over TCP or WebSocket, and for any user list, including an empty one or
   users without a usable password."

  Model: MM/Model/C21.lean (configuration → authenticator list → handler of MM/Model/C23.lean),
  of the code AS FIXED by fixes/C21-auth-enabled-no-users.patch.  Before the fix
  `CreateAuthenticators` returned an empty list for "enabled, no usable user" and `NewHandler`
  replaced it by no-authentication (witness kept in corpus/C21 and known/C21.json).

  `bc` (bcrypt.CompareHashAndPassword == nil) is an arbitrary predicate: no hypothesis on it is
  needed.  "Command executed" = the handler's action is not `none` (dial / UDP association /
  ICMP session), for every environment `env`.
-/
import MM.Lemmas.C21
import MM.Lemmas.C23

namespace MM.C21
open MM.C23

/-- With authentication enabled the running handler has exactly one authenticator: username /
    password over the configured store — for EVERY user list. -/
theorem enabled_auths (bc : Bytes → Bytes → Bool) (cfg : Cfg) (h : cfg.enabled = true) :
    newHandlerAuths (serverAuths (buildAuth bc cfg)) = [.userPass (credStore bc cfg)] := by
  unfold buildAuth createAuthenticators credStore serverAuths
  simp only [h, Bool.not_true, Bool.false_eq_true, if_false, if_true]
  by_cases hh : (hashedUsers cfg.users).isEmpty = true <;> simp [hh, newHandlerAuths]

/-- A pair accepted by the configured store belongs to a configured user whose password it matches. -/
theorem credStore_valid (bc : Bytes → Bytes → Bool) (cfg : Cfg) (u p : Bytes)
    (h : credStore bc cfg u p = true) :
    ∃ usr ∈ cfg.users, usr.name = u ∧ userValid bc usr p := by
  unfold credStore at h
  split at h
  · unfold hashedValid at h
    split at h
    · cases h
    · rename_i hsh hl
      obtain ⟨usr, hmem, hhash, hn, rfl⟩ := lookup_users hl
      refine ⟨usr, hmem, hn, ?_⟩
      unfold userValid
      rwa [if_pos (by simpa using hhash)]
  · unfold staticValid at h
    split at h
    · cases h
    · rename_i s hl
      obtain ⟨usr, hmem, hp, hn, rfl⟩ := lookup_users hl
      obtain ⟨hhash, hpw⟩ : usr.hash = [] ∧ usr.password ≠ [] := by simpa using hp
      refine ⟨usr, hmem, hn, ?_⟩
      unfold userValid
      rw [if_neg (by simp [hhash])]
      exact ⟨hpw, by simpa using h⟩

/-- The statement of C21 for the TCP listener. -/
def C21_statement : Prop :=
  ∀ (bc : Bytes → Bytes → Bool) (cfg : Cfg) (env : Env) (inp : Bytes),
    cfg.enabled = true →
    (serveTCP bc cfg env inp).action ≠ .none →
    ∃ name pw, presented inp name pw ∧ ∃ u ∈ cfg.users, u.name = name ∧ userValid bc u pw

/-- Core: with auth enabled, an executed command means the stream presented credentials that the
    configured store accepted. -/
theorem handle_enabled (bc : Bytes → Bytes → Bool) (cfg : Cfg) (env : Env) (inp : Bytes)
    (hen : cfg.enabled = true)
    (hact : (handle (agentEnv bc cfg env) inp).action ≠ .none) :
    ∃ name pw, presented inp name pw ∧ credStore bc cfg name pw = true ∧
      (handle (agentEnv bc cfg env) inp).creds = some (name, pw) := by
  unfold handle at hact ⊢
  have hauths : newHandlerAuths (agentEnv bc cfg env).auths = [.userPass (credStore bc cfg)] :=
    enabled_auths bc cfg hen
  rw [hauths] at hact ⊢
  dsimp only at hact ⊢
  cases hr : (authenticate [.userPass (credStore bc cfg)] inp).rest with
  | none => rw [hr] at hact; exact absurd rfl hact
  | some rest =>
    obtain ⟨methods, q, hinp, hml, hup, hcreds⟩ := authenticate_userPass_rest hr
    obtain ⟨u, p, hval, hc, hq, hu0, hu1, hp1⟩ := userPassAuth_rest hup
    refine ⟨u, p, ⟨methods, rest, ?_, hml, hu0, hu1, hp1⟩, hval, ?_⟩
    · rw [hinp, hq]
    · dsimp only
      rw [hcreds, hc]

theorem C21_holds : C21_statement := by
  intro bc cfg env inp hen hact
  obtain ⟨name, pw, hpres, hval, _⟩ := handle_enabled bc cfg env inp hen hact
  exact ⟨name, pw, hpres, credStore_valid bc cfg name pw hval⟩

theorem serveWS_action {bc : Bytes → Bytes → Bool} {cfg : Cfg} {env : Env}
    {basic : Option (Bytes × Bytes)} {inp : Bytes} (hact : (serveWS bc cfg env basic inp).action ≠ .none) :
    wsGate bc cfg basic = true ∧ (serveTCP bc cfg env inp).action ≠ .none := by
  unfold serveWS at hact
  split at hact
  · exact ⟨‹_›, hact⟩
  · exact absurd rfl hact

/-- The same over WebSocket, whatever HTTP credentials accompany the upgrade request. -/
theorem C21_ws (bc : Bytes → Bytes → Bool) (cfg : Cfg) (env : Env)
    (basic : Option (Bytes × Bytes)) (inp : Bytes) (hen : cfg.enabled = true)
    (hact : (serveWS bc cfg env basic inp).action ≠ .none) :
    ∃ name pw, presented inp name pw ∧ ∃ u ∈ cfg.users, u.name = name ∧ userValid bc u pw :=
  C21_holds bc cfg env inp hen (serveWS_action hact).2

/-- … and the WebSocket upgrade itself was made with HTTP Basic credentials of a configured user. -/
theorem C21_ws_gate (bc : Bytes → Bytes → Bool) (cfg : Cfg) (env : Env)
    (basic : Option (Bytes × Bytes)) (inp : Bytes) (hen : cfg.enabled = true)
    (hact : (serveWS bc cfg env basic inp).action ≠ .none) :
    ∃ name pw, basic = some (name, pw) ∧ ∃ u ∈ cfg.users, u.name = name ∧ userValid bc u pw := by
  have hg := (serveWS_action hact).1
  unfold wsGate at hg
  rw [if_pos hen] at hg
  match basic, hg with
  | some (n, p), hg => exact ⟨n, p, rfl, credStore_valid bc cfg n p hg⟩

/-- Whatever the WebSocket listener's HTTP-level gate is — no credential store at all, the same
    users, other users — and whatever the upgrade request's Authorization header says: with
    authentication enabled on the handler, an executed command means valid RFC 1929 credentials were
    presented ON THE SOCKS5 STREAM. (Nothing the HTTP layer saw may stand in for them.) -/
theorem C21_ws_any_gate (bc : Bytes → Bytes → Bool) (cfg : Cfg) (env : Env)
    (store : Option (Bytes → Bytes → Bool)) (basic : Option (Bytes × Bytes)) (inp : Bytes)
    (hen : cfg.enabled = true) (r : Result)
    (hr : serveWSWith bc cfg env store basic inp = some r) (hact : r.action ≠ .none) :
    ∃ name pw, presented inp name pw ∧ ∃ u ∈ cfg.users, u.name = name ∧ userValid bc u pw := by
  unfold serveWSWith at hr
  split at hr
  · cases hr
    exact C21_holds bc cfg env inp hen hact
  · cases hr

/-- The configurations the unit tests never try: no user that could log in (empty list, or only
    entries with neither password nor hash) ⇒ nothing is ever executed, for any client bytes. -/
theorem C21_no_usable_user (bc : Bytes → Bytes → Bool) (cfg : Cfg) (env : Env) (inp : Bytes)
    (hen : cfg.enabled = true)
    (hnone : ∀ u ∈ cfg.users, u.hash = [] ∧ u.password = []) :
    (serveTCP bc cfg env inp).action = .none := by
  apply Classical.byContradiction
  intro hact
  obtain ⟨_, pw, _, u, hu, _, hv⟩ := C21_holds bc cfg env inp hen hact
  obtain ⟨h1, h2⟩ := hnone u hu
  unfold userValid at hv
  rw [if_neg (by simp [h1])] at hv
  exact hv.1 h2

/-! ### non-vacuity: a configured user who presents the right password IS served, nobody else -/

def exCfg : Cfg := ⟨true, [⟨[0x61], [0x70, 0x77], []⟩]⟩           -- user "a", password "pw"
def exEnv : Env := ⟨[], .ok [10, 0, 0, 7] 40000, false, .absent, .absent, [127, 0, 0, 1]⟩
def exStream : Bytes :=
  [5, 1, 2] ++ [1, 1, 0x61, 2, 0x70, 0x77] ++ [5, 1, 0, 1, 127, 0, 0, 1, 0, 80]

example : (serveTCP (fun _ _ => false) exCfg exEnv exStream).action =
    .dial [0x31, 0x32, 0x37, 0x2e, 0x30, 0x2e, 0x30, 0x2e, 0x31, 0x3a, 0x38, 0x30] := by decide +kernel

/-- Wrong password, or the no-auth method: refused. -/
example : (serveTCP (fun _ _ => false) exCfg exEnv
    ([5, 1, 2] ++ [1, 1, 0x61, 2, 0x70, 0x78] ++ [5, 1, 0, 1, 127, 0, 0, 1, 0, 80])).action = .none := by decide
example : (serveTCP (fun _ _ => false) exCfg exEnv
    ([5, 1, 0] ++ [5, 1, 0, 1, 127, 0, 0, 1, 0, 80])).replies = [[5, 0xFF]] := by decide

/-- The witness of the fixed finding C21-enabled-no-usable-user: enabled, no users, client offers
    "no authentication". -/
example :
    let r := serveTCP (fun _ _ => false) ⟨true, []⟩ exEnv ([5, 1, 0] ++ [5, 1, 0, 1, 127, 0, 0, 1, 0, 80])
    r.replies = [[5, 0xFF]] ∧ r.action = .none := by decide

/-! ### the equality-level reading and bcrypt's 72-byte key (open finding C21-bcrypt-equivalent-password)

  `C21_holds` reads "credentials matching a configured user" as: the configured hash VERIFIES the
  presented password.  Read as "the presented password IS the one the hash was made from", the
  statement fails for bcrypt itself: it only looks at the first 72 bytes of `password ++ [0]`
  repeated, so for a user whose password has 72 bytes any longer password with that prefix is
  accepted, and `pw ++ [0] ++ pw` is accepted for `pw`. -/

/-- Equality-level statement for hashed users, with the concrete bcrypt model. -/
def C21_strict_statement : Prop :=
  ∀ (name pw : Bytes) (env : Env) (inp : Bytes),
    (serveTCP bcModel ⟨true, [⟨name, [], hashOf pw⟩]⟩ env inp).action ≠ .none →
    ∃ n p, (serveTCP bcModel ⟨true, [⟨name, [], hashOf pw⟩]⟩ env inp).creds = some (n, p) ∧ p = pw

def pw72 : Bytes := List.replicate 72 0x70

/-- Witness: user "a" with a 72-byte password; the client presents that password plus one more
    byte and is served. -/
theorem C21_strict_refuted : ¬ C21_strict_statement := by
  intro h
  have run :
      let r := serveTCP bcModel ⟨true, [⟨[0x61], [], hashOf pw72⟩]⟩ exEnv
        ([5, 1, 2] ++ ([1, 1, 0x61, 73] ++ pw72 ++ [0x78]) ++ [5, 1, 0, 1, 127, 0, 0, 1, 0, 80]);
      r.action ≠ .none ∧ r.creds = some ([0x61], pw72 ++ [0x78]) := by decide +kernel
  obtain ⟨n, p, hc, hp⟩ := h [0x61] pw72 exEnv _ run.1
  rw [run.2] at hc
  cases hc
  exact absurd (congrArg List.length hp) (by decide)

/-- The NUL form: "ab" is configured, "ab\0ab" is accepted. -/
example : bcModel (hashOf [0x61, 0x62]) [0x61, 0x62, 0, 0x61, 0x62] = true := by decide +kernel
/-- One byte short of the limit there is no such slack: a 71-byte password plus a byte is refused. -/
example : bcModel (hashOf (List.replicate 71 0x70)) (List.replicate 71 0x70 ++ [0x78]) = false := by decide +kernel

end MM.C21

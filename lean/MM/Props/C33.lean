/-
  C33 — Deterministic listening windows are computed correctly at every instant.

  "For every agent identity and every instant, including instants before the configured epoch,
   the next window is the earliest of that agent's windows that has not yet ended.  Windows recur
   exactly once per cycle and each fits inside its cycle.  An instant counts as in-window exactly
   when it lies between a window's start minus the clock tolerance and its end plus the tolerance."

  Model: MM/Model/C33.lean = internal/sleep/window.go after fixes/C33-floor-cycle-division.patch.
  Window `k` of an agent: `[winStart k, winEnd k]`, `winStart k = epoch + k·C + offset(agent)`,
  `winEnd k = winStart k + W`.  "Not yet ended at t" is `t ≤ winEnd k` (Go: `!now.After(end)`).

  * next-window, once-per-cycle, fits: proved in full (`C33_next_is_earliest_unended`,
    `C33_once_per_cycle`, `C33_fits`), for instants before and after the epoch.
  * in-window: the "only if" direction is proved in full (`C33_active_sound`).  The "if" direction
    (`C33_statement`) is REFUTED on the code (`C33_refuted`): an instant in the trailing tolerance
    `(end, end+tol)` is evaluated against the following window.  That behaviour is pinned by an
    existing unit test (window_test.go "false after window end"), so it is recorded as an open
    finding rather than changed; `C33_partial` proves the direction everywhere outside that region.
  * `C33_trunc_refuted`: the pre-fix truncating division violates next-is-earliest before the epoch
    (regression witness of the fixed defect).
-/
import MM.Lemmas.C33

namespace MM.C33

/-- Each window fits strictly inside one cycle: `0 ≤ offset` and `offset + W < C`; the effective
    window length is non-negative and shorter than the cycle (constructor clamp included). -/
theorem C33_fits (c : Cfg) (seed : Nat) (hC : 0 < c.C) (hC63 : c.C < 2^63) (hW : 0 ≤ c.W) :
    0 ≤ effW c ∧ 0 ≤ offset c seed ∧ offset c seed + effW c < c.C :=
  ⟨(effW_bounds c hC hW).1, offset_bounds c seed hC hC63 hW⟩

/-- Windows recur exactly once per cycle: consecutive windows are exactly one cycle apart, window
    `k` lies inside cycle `k` (`[epoch + k·C, epoch + (k+1)·C)`), and no other window of the agent
    starts or ends in that cycle. -/
theorem C33_once_per_cycle (c : Cfg) (seed : Nat) (hC : 0 < c.C) (hC63 : c.C < 2^63) (hW : 0 ≤ c.W)
    (k : Int) :
    winStart c seed (k + 1) = winStart c seed k + c.C ∧
    effEpoch c + k * c.C ≤ winStart c seed k ∧ winEnd c seed k < effEpoch c + (k + 1) * c.C ∧
    (∀ j, effEpoch c + k * c.C ≤ winStart c seed j → winStart c seed j < effEpoch c + (k + 1) * c.C
        → j = k) ∧
    (∀ j, effEpoch c + k * c.C ≤ winEnd c seed j → winEnd c seed j < effEpoch c + (k + 1) * c.C
        → j = k) := by
  have ⟨hw, ho, hf⟩ := C33_fits c seed hC hC63 hW
  have cyc := win_in_cycle c seed hw ho hf
  rw [Int.add_mul, Int.one_mul]
  -- each window lies in the cycle of its own index, and a point lies in one cycle only
  refine ⟨?_, (cyc k).1.1, (cyc k).2.2, fun j => cycle_unique hC (cyc j).1.1 (cyc j).1.2,
    fun j => cycle_unique hC (cyc j).2.1 (cyc j).2.2⟩
  unfold winStart
  rw [Int.add_mul, Int.one_mul]
  omega

theorem nextWindow_spec (c : Cfg) (seed : Nat) (t : Int) (hC63 : c.C < 2^63) (hv : Valid c t) :
    ∃ k : Int, nextWindow c seed t = (winStart c seed k, winEnd c seed k) ∧
      t ≤ winEnd c seed k ∧ winEnd c seed k < t + c.C := by
  have ⟨hw, ho, hf⟩ := C33_fits c seed hv.hC hC63 hv.hW
  have ⟨q, hcs, hq1, hq2⟩ := cycleStart_spec c t hv.hC hv.hlo hv.hhi
  unfold nextWindow nextWindowWith
  dsimp only
  rw [hcs]
  split
  · refine ⟨q + 1, ?_, ?_⟩
    · rw [winEnd, winStart, Int.add_mul, Int.one_mul, ← Int.add_assoc]
    · rw [winEnd, winStart, Int.add_mul, Int.one_mul, ← Int.add_assoc]
      omega
  · exact ⟨q, rfl, by unfold winEnd winStart; omega⟩

/-- **Next window = earliest un-ended window**, for every instant before or after the epoch:
    the reported window is one of the agent's windows, it has not ended at `t`, and every window
    of the agent that has not ended at `t` has an index at least as large. -/
theorem C33_next_is_earliest_unended (c : Cfg) (seed : Nat) (t : Int) (hC63 : c.C < 2^63)
    (hv : Valid c t) :
    ∃ k : Int, nextWindow c seed t = (winStart c seed k, winEnd c seed k) ∧
      t ≤ winEnd c seed k ∧ ∀ j : Int, t ≤ winEnd c seed j → k ≤ j := by
  have ⟨k, h1, h2, h3⟩ := nextWindow_spec c seed t hC63 hv
  exact ⟨k, h1, h2, fun j hj => win_idx_le (seed := seed) hv.hC (by unfold winEnd at *; omega)⟩

theorem active_iff_next (c : Cfg) (seed : Nat) (t : Int) :
    isInWindow c seed t = true ↔
      (nextWindow c seed t).1 - c.tol ≤ t ∧ t < (nextWindow c seed t).2 + c.tol := by
  unfold isInWindow info infoWith nextWindow
  simp only [Bool.and_eq_true, decide_eq_true_eq]
  omega

/-- In-window, "only if": whenever `IsInWindow` answers true the instant lies between some
    window's start minus the tolerance and its end plus the tolerance. -/
theorem C33_active_sound (c : Cfg) (seed : Nat) (t : Int) (hC63 : c.C < 2^63) (hv : Valid c t)
    (h : isInWindow c seed t = true) :
    ∃ k : Int, winStart c seed k - c.tol ≤ t ∧ t < winEnd c seed k + c.tol := by
  have ⟨k, h1, _, _⟩ := nextWindow_spec c seed t hC63 hv
  rw [active_iff_next, h1] at h
  exact ⟨k, h.1, h.2⟩

/-- In-window, "if" — the full statement: every instant strictly between a window's start minus
    the tolerance and its end plus the tolerance counts as in-window. -/
def C33_statement : Prop :=
  ∀ (c : Cfg) (seed : Nat) (t : Int), c.C < 2^63 → Valid c t →
    (∃ k : Int, winStart c seed k - c.tol < t ∧ t < winEnd c seed k + c.tol) →
    isInWindow c seed t = true

/-- Witness (scaled to small numbers): cycle 60, window 10, tolerance 2, epoch 0, offset 0.
    `t = 11` lies in the trailing tolerance `(10, 12)` of window 0 but is reported not in-window
    because it is evaluated against window 1 = `[60, 70]`. -/
def witnessCfg : Cfg := { C := 60, W := 10, tol := 2, epoch := 0 }

theorem witness_valid : Valid witnessCfg 11 :=
  ⟨by decide, by decide, by decide, by decide, by decide⟩

theorem C33_refuted : ¬ C33_statement := fun h =>
  absurd (h witnessCfg 0 11 (by decide) witness_valid ⟨0, by decide, by decide⟩) (by decide)

/-- In-window, "if", outside the trailing tolerance: an instant `t` with
    `start_k − tol ≤ t ≤ end_k` (and `t < end_k + tol`, which only matters for `tol = 0`)
    counts as in-window.  The excluded region is exactly `end_k < t < end_k + tol`. -/
theorem C33_partial (c : Cfg) (seed : Nat) (t : Int) (hC63 : c.C < 2^63) (hv : Valid c t)
    (h : ∃ k : Int, winStart c seed k - c.tol ≤ t ∧ t ≤ winEnd c seed k ∧ t < winEnd c seed k + c.tol) :
    isInWindow c seed t = true := by
  have ⟨hC, hW, htol, _, _⟩ := hv
  have ⟨hw, ho, hf⟩ := C33_fits c seed hC hC63 hW
  have ⟨n, h1, h2, hmin⟩ := C33_next_is_earliest_unended c seed t hC63 hv
  obtain ⟨k, hk1, hk2, hk3⟩ := h
  rw [active_iff_next, h1]
  by_cases hkn : k ≤ n
  · cases Int.le_antisymm hkn (hmin k hk2)
    exact ⟨hk1, hk3⟩
  · -- window `k` comes after the reported one, a cycle or more later: `t` is in its leading tolerance only
    have : ¬ winStart c seed k < winStart c seed n + c.C := fun h => hkn (win_idx_le hC h)
    unfold winEnd at *
    omega

/-- Regression witness of the fixed defect: with the pre-fix truncating division, at
    `t = epoch − 55` (cycle 60, window 10, offset 0) the reported window is window 0 = `[0, 10]`
    although window −1 = `[-60, -50]` has not ended yet; the fixed code reports window −1. -/
theorem C33_trunc_refuted :
    nextWindowWith cycleStartTrunc witnessCfg 0 (-55) = (winStart witnessCfg 0 0, winEnd witnessCfg 0 0) ∧
    (-55 : Int) ≤ winEnd witnessCfg 0 (-1) ∧
    nextWindow witnessCfg 0 (-55) = (winStart witnessCfg 0 (-1), winEnd witnessCfg 0 (-1)) := by
  decide

/-! Vacuity checks: the hypotheses are satisfiable by realistic values (5 min cycle, 30 s window,
    5 s tolerance, an instant 95 s before the epoch and one in 2026). -/

def realisticCfg : Cfg := { C := 300000000000, W := 30000000000, tol := 5000000000, epoch := 0 }

example : Valid realisticCfg (-95000000000) := ⟨by decide, by decide, by decide, by decide, by decide⟩
example : Valid realisticCfg 1790000000000000000 := ⟨by decide, by decide, by decide, by decide, by decide⟩
example : ∃ k : Int, winStart witnessCfg 0 k - witnessCfg.tol ≤ 9 ∧ 9 ≤ winEnd witnessCfg 0 k ∧
    9 < winEnd witnessCfg 0 k + witnessCfg.tol := ⟨0, by decide, by decide, by decide⟩
example : isInWindow witnessCfg 0 9 = true := by decide

end MM.C33

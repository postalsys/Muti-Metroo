/-
  C28 — Signed-command mode rejects every unsigned or invalid sleep/wake command.

  "When a signing public key is configured, an agent changes its sleep state, or forwards a sleep
   or wake command, only for a command carrying a valid signature over its origin, identifier and
   timestamp, with the timestamp inside the validity window.  This holds on every path a command
   can arrive by."

  Model: MM/Model/C28.lean = flood.go / agent.go after
    fixes/C28-verify-queued-commands.patch      (QUEUED_STATE commands go through the flooder's checks),
    fixes/C28-timestamp-abs-overflow.patch      (a saturated negative time difference is rejected),
    fixes/C28-reverify-pending-wake.patch       (a stored wake command is re-verified before it is forwarded),
  and fixes/C29-verify-before-mark.patch (verification precedes the seen-cache test-and-set; C28 does
  not depend on that order).
  Paths: SLEEP_COMMAND frame, WAKE_COMMAND frame, SleepCmd / WakeCmd inside QUEUED_STATE
  (`deliver … via`), and the forwarding of the stored wake command to a newly connected peer
  (`onPeerConnected`).  Signature validity is the abstract predicate `V` (any function).
  "Timestamp inside the validity window" is `|now − T| ≤ window` with `T` the instant the code
  derives from the uint64 field (`time.Unix(int64(ts), 0)`).

  Locally originated commands (TriggerSleep / TriggerWake, an operator action on the agent itself)
  are not commands that arrive; what they put on the wire is `C28_issued`.
-/
import MM.Lemmas.C28

namespace MM.C28

/-- What `deliver` sends is what `handle` sends, tagged with the kind; and a refusal by `handle` that sends
    nothing has no effect beyond the flooder's own state. -/
theorem deliver_spec {V : Verifier} {cfg : FCfg} {a : AState} {now : Int} {via : Via} {from_ : Nat} {c : Cmd} :
    (deliver V cfg a now via from_ c).2.sends =
      ((handle V cfg a.f now via.kind from_ c).2.2.map fun (p, c) => (p, via.kind, c)) ∧
    ((handle V cfg a.f now via.kind from_ c).2 = (false, []) →
      deliver V cfg a now via from_ c = ({ a with f := (handle V cfg a.f now via.kind from_ c).1 }, Outcome.none)) := by
  unfold deliver
  dsimp only
  generalize via.kind = k
  generalize handle V cfg a.f now k from_ c = h
  obtain ⟨f', acc, sends⟩ := h
  refine ⟨?_, fun h => by cases h; rfl⟩
  generalize a.sl = s
  cases acc <;> cases k <;> cases s <;> rfl

/-- **Every arrival path.**  With a signing key configured, if delivering a command by any `via`
    changes the sleep state, invokes `Sleep()`/`Wake()`, runs a callback or sends any sleep/wake
    frame to any peer, then the command is validly signed and its timestamp is inside the window;
    and every frame sent carries exactly that command's origin, id, timestamp and signature. -/
theorem C28_every_path (V : Verifier) (cfg : FCfg) (a : AState) (now : Int) (via : Via) (from_ : Nat) (c : Cmd)
    (hk : cfg.signing = true) (hw : cfg.window < 2^63 - 1)
    (hact : (deliver V cfg a now via from_ c).1.sl ≠ a.sl ∨
            (deliver V cfg a now via from_ c).2.sleepInvoked = true ∨
            (deliver V cfg a now via from_ c).2.wakeInvoked = true ∨
            (deliver V cfg a now via from_ c).2.onSleep ≠ 0 ∨
            (deliver V cfg a now via from_ c).2.onWake ≠ 0 ∨
            (deliver V cfg a now via from_ c).2.sends ≠ []) :
    Admissible V cfg now c ∧
    ∀ x ∈ (deliver V cfg a now via from_ c).2.sends,
      x.2.2.origin = c.origin ∧ x.2.2.id = c.id ∧ x.2.2.ts = c.ts ∧ x.2.2.sig = c.sig := by
  rcases handle_cases V cfg a.f now via.kind from_ c with ⟨hrej, _⟩ | ⟨_, hv, _, _, hx⟩
  · rw [deliver_spec.2 hrej] at hact
    simp [Outcome.none] at hact
  · refine ⟨verify_sound V cfg now c hk hw hv, ?_⟩
    rw [deliver_spec.1]
    exact List.forall_mem_map.mpr fun y hy => by rw [hx y hy]; exact ⟨rfl, rfl, rfl, rfl⟩

/-- **Pending-wake path.**  With a signing key configured, whatever wake command is stored, the
    frame sent to a newly connected peer (if any) carries a validly signed command whose timestamp
    is inside the window at the moment of forwarding. -/
theorem C28_pending_forward (V : Verifier) (cfg : FCfg) (st : FState) (now : Int) (peer : Nat)
    (hk : cfg.signing = true) (hw : cfg.window < 2^63 - 1) :
    ∀ x ∈ (onPeerConnected V cfg st now peer).2, Admissible V cfg now x.2 := by
  fun_cases onPeerConnected V cfg st now peer
  case case5 c _ _ _ _ hv =>
    exact List.forall_mem_singleton.mpr (verify_sound V cfg now c hk hw (by simpa using hv))
  all_goals exact List.forall_mem_nil _

/-! ### regression witnesses of the fixed defects (the pre-fix code, kept in the model as `…Pinned`) -/

def wCfg : FCfg := { signing := true, window := 300000000000, ttl := 300000000000, maxSize := 10000, localID := 0, peers := [1, 2, 3] }
def wNow : Int := 1800000000500000000
def wAwake : AState := { f := FState.empty, sl := .awake }

/-- Before the fix an UNSIGNED sleep command inside QUEUED_STATE put the agent to sleep. -/
theorem C28_pinned_queued_refuted :
    (deliverPinned idealV wCfg wAwake wNow .queuedSleep 1
      { origin := 4, id := 11, ts := 1800000000, sig := .zero, seenBy := [] }).1.sl = .sleeping ∧
    (deliver idealV wCfg wAwake wNow .queuedSleep 1
      { origin := 4, id := 11, ts := 1800000000, sig := .zero, seenBy := [] }).1.sl = .awake := by
  decide

/-- Before the fix a validly signed command stamped centuries ahead (here 20 000 000 000 s, year
    2603) passed the timestamp check: `time.Since` saturates at the minimum Duration, whose negation
    overflows and stays negative, so `timeDiff > window` was false. -/
theorem C28_pinned_farfuture_refuted :
    (deliverPinned idealV wCfg wAwake wNow .floodSleep 1
      { origin := 4, id := 10, ts := 20000000000, sig := .signed 0 .sleep 4 10 20000000000, seenBy := [] }).1.sl = .sleeping ∧
    (deliver idealV wCfg wAwake wNow .floodSleep 1
      { origin := 4, id := 10, ts := 20000000000, sig := .signed 0 .sleep 4 10 20000000000, seenBy := [] }).1.sl = .awake := by
  decide

/-- Before the fix the stored wake command was forwarded even after its timestamp left the window. -/
theorem C28_pinned_pending_refuted :
    let st : FState := { seen := [], pending := some ({ origin := 4, id := 11, ts := 1800000000 - 299, sig := .signed 0 .wake 4 11 (1800000000 - 299), seenBy := [] }, wNow - 100000000000) }
    (onPeerConnectedPinned wCfg st wNow 2).2 ≠ [] ∧ (onPeerConnected idealV wCfg st (wNow + 100000000000) 2).2 = [] ∧
    (onPeerConnectedPinned wCfg st (wNow + 100000000000) 2).2 ≠ [] := by
  decide

/-! ### the verified bytes do not bind the command kind (open finding C28-cross-type-replay) -/

theorem idealV_signed {o i t : Nat} {s : Sig} (h : idealV o i t s = true) : ∃ k, s = .signed 0 k o i t := by
  unfold idealV at h
  split at h
  · next k o' i' t' =>
    obtain ⟨⟨rfl, rfl⟩, rfl⟩ : (o' = o ∧ i' = i) ∧ t' = t := by simpa using h
    exact ⟨k, rfl⟩
  · cases h

/-- The property read with "valid signature" = "the key holder signed THIS command": whenever a
    delivery by `via` has any effect, the signature is one the key holder made when issuing a
    command of that kind with these fields.  (Ideal signatures, the code's verifier `idealV`.) -/
def C28_statement_kind : Prop :=
  ∀ (cfg : FCfg) (a : AState) (now : Int) (via : Via) (from_ : Nat) (c : Cmd),
    cfg.signing = true → cfg.window < 2^63 - 1 →
    ((deliver idealV cfg a now via from_ c).1.sl ≠ a.sl ∨ (deliver idealV cfg a now via from_ c).2.sends ≠ []) →
    c.sig = .signed 0 via.kind c.origin c.id c.ts

/-- REFUTED on the code: `SleepCommand.SignableBytes` and `WakeCommand.SignableBytes` are the same
    bytes (origin ‖ id ‖ timestamp, no command type), so the signature of a SLEEP command the key
    holder issued verifies on a WAKE command with the same fields: a sleeping agent that did not see
    the original is woken (and forwards the forged wake). -/
theorem C28_refuted_cross_type : ¬ C28_statement_kind := fun h =>
  absurd (h wCfg { f := FState.empty, sl := .sleeping } wNow .floodWake 1
    { origin := 4, id := 10, ts := 1800000000, sig := .signed 0 .sleep 4 10 1800000000, seenBy := [] }
    (by decide) (by decide) (by decide)) (by decide)

/-- What does hold (the strongest true restriction): an effect implies a signature the key holder
    made over exactly this origin, id and timestamp for SOME kind of command, and a timestamp inside
    the window — the kind is the only thing not bound. -/
theorem C28_partial (cfg : FCfg) (a : AState) (now : Int) (via : Via) (from_ : Nat) (c : Cmd)
    (hk : cfg.signing = true) (hw : cfg.window < 2^63 - 1)
    (hact : (deliver idealV cfg a now via from_ c).1.sl ≠ a.sl ∨ (deliver idealV cfg a now via from_ c).2.sends ≠ []) :
    (∃ k, c.sig = .signed 0 k c.origin c.id c.ts) ∧
    -cfg.window ≤ now - cmdSec c.ts * 1000000000 ∧ now - cmdSec c.ts * 1000000000 ≤ cfg.window := by
  have hadm := (C28_every_path idealV cfg a now via from_ c hk hw
    (hact.imp_right fun h => .inr (.inr (.inr (.inr h))))).1
  exact ⟨idealV_signed hadm.2.1, hadm.2.2⟩

/-- With signed bytes that bind the kind (`idealKV`), the kind is bound: the cross-type replay is a
    consequence of the signed layout only. -/
theorem C28_kind_bound_if_signed_bytes_bind_kind (cfg : FCfg) (a : AState) (now : Int) (via : Via) (from_ : Nat) (c : Cmd)
    (hk : cfg.signing = true) (hw : cfg.window < 2^63 - 1)
    (hact : (deliver (idealKV via.kind) cfg a now via from_ c).1.sl ≠ a.sl ∨
            (deliver (idealKV via.kind) cfg a now via from_ c).2.sends ≠ []) :
    c.sig = .signed 0 via.kind c.origin c.id c.ts :=
  beq_iff_eq.mp (C28_every_path (idealKV via.kind) cfg a now via from_ c hk hw
    (hact.imp_right fun h => .inr (.inr (.inr (.inr h))))).1.2.1

/-! ### issuer side -/

theorem trigger_sends (canSign : Bool) (cfg : FCfg) (a : AState) (now : Int) (k : Kind) (id : Nat) :
    ∀ x ∈ (trigger canSign cfg a now k id).2.sends, x.2 = (k, issued canSign cfg now k id) := by
  have flood : ∀ (k : Kind),
      ∀ x ∈ (floodLocal cfg a.f now k (issued canSign cfg now k id)).2.map fun (p, c) => (p, k, c),
        x.2 = (k, issued canSign cfg now k id) :=
    fun k => List.forall_mem_map.mpr (List.forall_mem_map.mpr fun _ _ => rfl)
  fun_cases trigger canSign cfg a now k id
  case case1 => exact flood .sleep
  case case2 => exact List.forall_mem_nil _
  case case3 => exact flood .wake

/-- What `TriggerSleep` / `TriggerWake` puts on the wire: every frame carries this agent as origin,
    `SeenBy = [this agent]`, the current Unix second as timestamp, and — when a private key is
    configured — a signature the key holder made for exactly this kind, origin, id and timestamp. -/
theorem C28_issued (canSign : Bool) (cfg : FCfg) (a : AState) (now : Int) (k : Kind) (id : Nat) :
    ∀ x ∈ (trigger canSign cfg a now k id).2.sends,
      x.2.1 = k ∧ x.2.2.origin = cfg.localID ∧ x.2.2.id = id ∧ x.2.2.ts = (now / 1000000000).toNat ∧
      x.2.2.seenBy = [cfg.localID] ∧
      (canSign = true → x.2.2.sig = .signed 0 k cfg.localID id (now / 1000000000).toNat) ∧
      (canSign = false → x.2.2.sig = .zero) := by
  intro x hx
  rw [trigger_sends canSign cfg a now k id x hx]
  cases canSign
  · exact ⟨rfl, rfl, rfl, rfl, rfl, nofun, fun _ => rfl⟩
  · exact ⟨rfl, rfl, rfl, rfl, rfl, fun _ => rfl, nofun⟩

/-! ### the hypotheses are satisfiable and the positive case exists -/

example : (deliver idealV wCfg wAwake wNow .queuedSleep 1
    { origin := 4, id := 10, ts := 1800000000, sig := .signed 0 .sleep 4 10 1800000000, seenBy := [] }).1.sl = .sleeping := by decide
example : (deliver idealV wCfg wAwake wNow .floodSleep 1
    { origin := 4, id := 10, ts := 1800000000, sig := .signed 0 .sleep 4 10 1800000000, seenBy := [2] }).2.sends.length = 1 := by decide
example : wCfg.signing = true ∧ wCfg.window < 2^63 - 1 := by decide

end MM.C28

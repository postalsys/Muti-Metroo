/-
  C20 — Port-forward endpoints connect only to their configured targets.

  "A port-forward endpoint that receives a tunnel request connects only to the target configured
   for the requested key.  A request for an unknown key is refused with a not-found error and no
   connection is made."

  Quantified over ALL requested keys (byte strings) and ALL endpoint configurations (including
  duplicate keys, empty keys, any target type).  Model: MM/Model/C20.lean, tied to
  forward.Handler and Agent.handleStreamOpen by T-diff with real loopback listeners as targets.
-/
import MM.Lemmas.C20

namespace MM.C20

/-- Constants of the source the statement is about. -/
theorem C20_tie : errForwardNotFound = 40 ∧ forwardPrefix = [0x66, 0x6f, 0x72, 0x77, 0x61, 0x72, 0x64, 0x3a] ∧  -- "forward:"
    forwardPrefix.length = 8 := by decide

/-- The only address a request can make the handler dial is a target configured under exactly
    the requested key. -/
theorem C20_target {τ : Type} (running : Bool) (maxConn connCount : Int) (eps : List (Endpoint τ))
    (key : Bytes) (t : τ) (h : handleOpen running maxConn connCount eps key = .dial t) :
    lookup eps key = some t ∧ ∃ ep ∈ eps, ep.key = key ∧ ep.target = t := by
  revert h
  fun_cases handleOpen running maxConn connCount eps key <;> intro h <;> cases h
  next hl => exact ⟨hl, lookup_some hl⟩

/-- With unique keys (what config validation enforces) it is THE configured target. -/
theorem C20_target_unique {τ : Type} (running : Bool) (maxConn connCount : Int) (eps : List (Endpoint τ))
    (key : Bytes) (t : τ) (ep : Endpoint τ) (_hep : ep ∈ eps) (_hk : ep.key = key)
    (huniq : ∀ e ∈ eps, e.key = key → e = ep)
    (h : handleOpen running maxConn connCount eps key = .dial t) : t = ep.target := by
  obtain ⟨_, e, he, hek, het⟩ := C20_target running maxConn connCount eps key t h
  rw [← het, huniq e he hek]

/-- An unknown key never leads to a dial … -/
theorem C20_unknown_no_dial {τ : Type} (running : Bool) (maxConn connCount : Int) (eps : List (Endpoint τ))
    (key : Bytes) (hunk : ∀ ep ∈ eps, ep.key ≠ key) :
    ∀ t, handleOpen running maxConn connCount eps key ≠ .dial t := by
  intro t h
  obtain ⟨_, e, he, hek, _⟩ := C20_target running maxConn connCount eps key t h
  exact hunk e he hek

/-- … and, when the handler is running and below its connection limit, it is refused with
    ErrForwardNotFound. -/
theorem C20_unknown {τ : Type} (maxConn connCount : Int) (eps : List (Endpoint τ)) (key : Bytes)
    (hunk : ∀ ep ∈ eps, ep.key ≠ key) (hlim : ¬ (maxConn > 0 ∧ connCount ≥ maxConn)) :
    handleOpen true maxConn connCount eps key = .refuse errForwardNotFound := by
  unfold handleOpen
  simp only [Bool.not_true, Bool.false_eq_true, if_false, if_neg hlim, (lookup_none_iff eps key).mpr hunk]

/-- A known key (running, below the limit) is dialled. -/
theorem C20_known {τ : Type} (maxConn connCount : Int) (eps : List (Endpoint τ)) (key : Bytes) (t : τ)
    (hl : lookup eps key = some t) (hlim : ¬ (maxConn > 0 ∧ connCount ≥ maxConn)) :
    handleOpen true maxConn connCount eps key = .dial t := by
  unfold handleOpen
  simp only [Bool.not_true, Bool.false_eq_true, if_false, if_neg hlim, hl]

/-- None of the reserved stream names starts with the forward prefix (finite check on the
    regenerated constants), so the order of the tests in handleStreamOpen does not matter. -/
theorem reserved_not_forward : ∀ r ∈ Gen.C20.reserved, forwardPrefix.isPrefixOf r = false := by decide

/-- An open is treated as a forward request iff this agent is the exit node, the address is a
    domain address, and the domain string starts with exactly `forward:`; the key is the rest. -/
theorem C20_dispatch_iff (self addrType : Nat) (addr : Bytes) (path : List Nat) (key : Bytes) :
    dispatch self addrType addr path = .forward key ↔
      (isExit self path = true ∧ addrType = Gen.C20.addrTypeDomain ∧ domainString addr = forwardPrefix ++ key) := by
  have hp : forwardPrefix.isPrefixOf (forwardPrefix ++ key) = true :=
    List.isPrefixOf_iff_prefix.2 (List.prefix_append _ _)
  fun_cases dispatch self addrType addr path
  · next hres =>
    exact ⟨nofun, fun ⟨_, _, hd⟩ => nomatch (reserved_not_forward _ (hd ▸ hres)).symm.trans hp⟩
  · next hex hdom _ _ hpre =>
    obtain ⟨t, ht⟩ := List.isPrefixOf_iff_prefix.1 hpre
    rw [← ht, List.drop_left' rfl]
    exact ⟨fun h => ⟨hex, hdom, Dispatch.forward.inj h ▸ ht.symm⟩,
      fun ⟨_, _, hd⟩ => congrArg _ (List.append_cancel_left (ht.trans hd))⟩
  · next hnp => exact ⟨nofun, fun ⟨_, _, hd⟩ => absurd (hd ▸ hp : forwardPrefix.isPrefixOf (domainString addr) = true) hnp⟩
  · next hdom => exact ⟨nofun, fun h => absurd h.2.1 hdom⟩
  · next hex => exact ⟨nofun, fun h => absurd h.1 hex⟩

/-- End to end: whatever STREAM_OPEN arrives, if it makes the forward handler dial `t`, then `t`
    is configured under the key that follows `forward:` in the requested domain address. -/
theorem C20_end_to_end {τ : Type} (self addrType : Nat) (addr : Bytes) (path : List Nat)
    (running : Bool) (maxConn connCount : Int) (eps : List (Endpoint τ)) (key : Bytes) (t : τ)
    (hd : dispatch self addrType addr path = .forward key)
    (h : handleOpen running maxConn connCount eps key = .dial t) :
    ∃ ep ∈ eps, domainString addr = forwardPrefix ++ ep.key ∧ ep.target = t := by
  obtain ⟨_, _, hdom⟩ := (C20_dispatch_iff self addrType addr path key).mp hd
  obtain ⟨_, ep, hep, hk, ht⟩ := C20_target running maxConn connCount eps key t h
  exact ⟨ep, hep, by rw [hdom, hk], ht⟩

/-- Both ends agree: the address DialForward writes for a key of at most 247 bytes is read back
    by the exit node as a forward request for exactly that key (so `C20_end_to_end` applies to
    what an ingress listener asked for). -/
theorem C20_ingress_roundtrip (self : Nat) (key : Bytes) (path : List Nat)
    (hlen : forwardPrefix.length + key.length < 256) (hexit : isExit self path = true) :
    dispatch self Gen.C20.addrTypeDomain (wireAddr (ingressAddr key)) path = .forward key :=
  (C20_dispatch_iff self _ _ path key).mpr ⟨hexit, rfl, by
    rw [domainString_wire_ingress, Nat.mod_eq_of_lt hlen, ← List.length_append, List.take_length]⟩

/-- Longer keys (248..255 bytes, the most a route advertisement can carry) are truncated by the
    one-byte length: what arrives is a strict prefix of `forward:` — never a forward request for
    any key, so no forward target is dialled for them at all (the listener simply cannot connect). -/
theorem C20_ingress_long_key (self : Nat) (key : Bytes) (path : List Nat)
    (h1 : 256 ≤ forwardPrefix.length + key.length) (h2 : forwardPrefix.length + key.length < 256 + forwardPrefix.length) :
    ∀ k, dispatch self Gen.C20.addrTypeDomain (wireAddr (ingressAddr key)) path ≠ .forward k := by
  intro k hk
  obtain ⟨_, _, hd⟩ := (C20_dispatch_iff self _ _ path k).mp hk
  -- fewer than `forwardPrefix.length` bytes survive, too few for `forward:` + any key
  have hlen := congrArg List.length hd
  rw [domainString_wire_ingress, List.length_take, List.length_append, List.length_append] at hlen
  have : forwardPrefix.length + k.length < forwardPrefix.length := calc
    _ ≤ (forwardPrefix.length + key.length) % 256 := hlen ▸ Nat.min_le_left _ _
    _ = (forwardPrefix.length + key.length - 256) % 256 := Nat.mod_eq_sub_mod h1
    _ ≤ forwardPrefix.length + key.length - 256 := Nat.mod_le _ _
    _ < forwardPrefix.length := Nat.sub_lt_left_of_lt_add h1 h2
  exact absurd (Nat.le_add_right _ _) (Nat.not_le.2 this)

example : dispatch 1 Gen.C20.addrTypeDomain (wireAddr (ingressAddr [0x77, 0x65, 0x62])) [] = .forward [0x77, 0x65, 0x62] :=
  C20_ingress_roundtrip 1 _ [] (by decide) rfl

/-! Non-vacuity: near-miss keys are unknown; duplicates resolve to the last entry. -/
example : handleOpen true 1000 0 [⟨[0x77, 0x65, 0x62], (1 : Nat)⟩, ⟨[0x64, 0x62], 2⟩] [0x77, 0x65, 0x62] = .dial 1 := by
  decide
example : handleOpen true 1000 0 [⟨[0x77, 0x65, 0x62], (1 : Nat)⟩] [0x57, 0x65, 0x62] = .refuse 40 := by decide
example : handleOpen true 1000 0 [⟨[0x77, 0x65, 0x62], (1 : Nat)⟩] [0x77, 0x65, 0x62, 0x20] = .refuse 40 := by decide
example : handleOpen true 1000 0 [⟨[0x61], (1 : Nat)⟩, ⟨[0x61], 2⟩] [0x61] = .dial 2 := by decide
example : dispatch 7 3 ([10] ++ forwardPrefix ++ [0x77, 0x62]) [7] = .forward [0x77, 0x62] := by decide
example : dispatch 7 3 ([9] ++ [0x46] ++ forwardPrefix.drop 1 ++ [0x77]) [] = .exitTCP := by decide

end MM.C20

import MM.Lemmas.C11

/-
  C13 — a learned route's metric equals its hop count.

  Model = MM/Model/C11.lean (the tree with fixes/C13-forward-metric.patch: a forwarded
  advertisement carries metric + 1).  Metrics are u16; the invariant is stated modulo 65536 and
  the plain equality follows when `base + hops < 65536` (`C13_exact`).

  * `C13_statement` (full strength, every history) is REFUTED on the repaired tree as well:
    SendFullTable sends one path per origin together with all stored routes of that origin, so a
    route that was learned over a different path keeps its own metric (`C13_refuted`; open finding
    C13-replay-mixed-paths, replayed on the real code by the check).
  * `C13_partial_coherent`: the statement holds in every history in which each replayed
    advertisement is itself coherent (metric + 1 = base + advertised path length).
  * `C13_partial`: in particular it holds in every history without third-party replays
    (`benignRun`, decidable): SendFullTable only ever sends the replayer's own routes.
-/
namespace MM.C13
open MM.C11

/-- `b` is the metric origin `o` configured for route `(kind, key)`; the presence route has base 0. -/
def IsBase (L : Node → List RAd) (o kind key b : Nat) : Prop :=
  (kind = 3 ∧ key = o ∧ b = 0) ∨ (⟨kind, key, b⟩ : RAd) ∈ L o

/-- An advertisement whose receiver will record `metric = base + hops`. -/
def AdvOK (L : Node → List RAd) (m : Adv) : Prop :=
  m.origin ∈ m.path ∧
  ∀ r, r ∈ m.routes → ∃ b, IsBase L m.origin r.kind r.key b ∧ inc16 r.metric = (b + m.path.length) % 65536

def EntryOK (L : Node → List RAd) (x : Node) (e : Entry) : Prop :=
  (e.path = [] → IsLocalEntry x (L x) e) ∧
  (e.path ≠ [] → e.origin ≠ x ∧
    ∃ b, IsBase L e.origin e.kind e.key b ∧ e.metric = (b + e.path.length) % 65536)

structure Inv (L : Node → List RAd) (s : Net) : Prop where
  locals : ∀ x, (s.nodes x).locals = L x
  flight : ∀ f, f ∈ s.flight → f.adv.wd = false → AdvOK L f.adv
  entries : ∀ x e, e ∈ (s.nodes x).entries → EntryOK L x e

theorem inv_init (n mh : Nat) (L : Node → List RAd) : Inv L (init n mh L) where
  locals := fun x => initNode_locals x (L x)
  flight := by intro f hf; cases hf
  entries := by
    intro x e he
    have hl := (initNode_entries he).1
    exact ⟨fun _ => hl, fun hne => absurd hl.1 hne⟩

theorem inc16_step {x b l : Nat} (h : x = (b + l) % 65536) : inc16 x = (b + (l + 1)) % 65536 :=
  h ▸ Nat.mod_add_mod (b + l) 65536 1

theorem advOK_own {L : Node → List RAd} {a : Node} {m : Adv} (ho : m.origin = a) (hp : m.path = [a])
    (hr : ∀ r, r ∈ m.routes → IsBase L a r.kind r.key r.metric) : AdvOK L m := by
  rw [AdvOK, ho, hp]
  exact ⟨List.mem_cons_self, fun r hrm => ⟨r.metric, hr r hrm, rfl⟩⟩

theorem inv_step {L : Node → List RAd} {s : Net} {op : Op} (hI : Inv L s)
    (hrep : ∀ a b ord, op = .replay a b ord →
      ∀ m, m ∈ replayAdvs (hopCap (s.maxHops a)) a b (s.nodes a) ord → AdvOK L m) :
    Inv L (step s op) where
  locals := fun x => (locals_step s op x).trans (hI.locals x)
  flight := by
    intro f hf
    cases flight_step hf with
    | old h => exact hI.flight f h
    | wdr _ _ _ _ h => rw [h.wd]; exact nofun
    | ann _ _ h =>
      refine fun _ => advOK_own h.origin h.path (fun r hr => ?_)
      rcases List.mem_append.1 (h.routes r hr) with hr' | hr'
      · exact Or.inr (hI.locals _ ▸ hr')
      · rw [List.mem_singleton.1 hr']
        exact Or.inl ⟨rfl, rfl, rfl⟩
    | fwd a m hm _ _ _ _ hadv =>
      rw [hadv, fwdAdv_wd]
      intro hw
      obtain ⟨ho, hr⟩ := hI.flight _ hm hw
      rw [AdvOK, fwdAdv_origin, fwdAdv_path hw, fwdAdv_routes hw]
      refine ⟨List.mem_cons_of_mem _ ho, fun r' hr' => ?_⟩
      obtain ⟨r, hrm, rfl⟩ := List.mem_map.1 hr'
      obtain ⟨b, hb1, hb2⟩ := hr r hrm
      exact ⟨b, hb1, inc16_step hb2⟩
    | rep ord hop _ _ hadv => exact fun _ => hrep _ _ _ hop _ hadv
  entries := by
    intro x e he
    rcases entries_step he with h | ⟨a, m, hm, _, hwd, _, hp, r, hr, rfl⟩
    · exact hI.entries x e h
    · obtain ⟨ho, hrs⟩ := hI.flight _ hm hwd
      -- the origin is on the path and `x` is not; the metric clause is the one of the frame
      exact ⟨fun h0 => absurd h0 (List.ne_nil_of_mem ho),
        fun _ => ⟨fun heq => hp ((show m.origin = x from heq) ▸ ho), hrs r hr⟩⟩

theorem benign_advOK {L : Node → List RAd} {s : Net} {a b : Node} {ord : List RFrame} {m : Adv}
    (hI : Inv L s) (hb : benignOp s (.replay a b ord) = true)
    (hm : m ∈ replayAdvs (hopCap (s.maxHops a)) a b (s.nodes a) ord) : AdvOK L m := by
  obtain ⟨ho, hp⟩ := benign_replay hb hm
  refine advOK_own ho hp (fun r hr => ?_)
  obtain ⟨e, he, heo, _, rfl⟩ := (mem_replayAdvs hm).routes r hr
  obtain ⟨h1, h2⟩ := hI.entries a e he
  -- an entry of the replayer's own origin has no path: it is a local entry
  have hpe : e.path = [] := Decidable.byContradiction (fun hne => (h2 hne).1 (heo.trans ho))
  exact Or.inr (h1 hpe).2.2.2

/-- Every replayed advertisement of the history is coherent. -/
def CoherentRun (L : Node → List RAd) (s : Net) : List Op → Prop
  | [] => True
  | op :: t =>
    (∀ a b ord, op = .replay a b ord →
      ∀ m, m ∈ replayAdvs (hopCap (s.maxHops a)) a b (s.nodes a) ord → AdvOK L m) ∧
    CoherentRun L (step s op) t

theorem inv_run_coherent {L : Node → List RAd} (s : Net) (ops : List Op) (hI : Inv L s)
    (hc : CoherentRun L s ops) : Inv L (run s ops) := by
  induction ops generalizing s with
  | nil => exact hI
  | cons op t ih => exact ih (step s op) (inv_step hI hc.1) hc.2

/-- The property at full strength: in EVERY history, every learned route's metric is its origin's
    base metric plus the length of its recorded path (u16 arithmetic). -/
def C13_statement : Prop :=
  ∀ (n mh : Nat) (L : Node → List RAd) (ops : List Op) (x : Node) (e : Entry),
    e ∈ ((run (init n mh L) ops).nodes x).entries → e.path ≠ [] →
    ∃ b, IsBase L e.origin e.kind e.key b ∧ e.metric = (b + e.path.length) % 65536

theorem C13_partial_coherent (n mh : Nat) (L : Node → List RAd) (ops : List Op)
    (hc : CoherentRun L (init n mh L) ops) (x : Node) (e : Entry)
    (he : e ∈ ((run (init n mh L) ops).nodes x).entries) (hp : e.path ≠ []) :
    ∃ b, IsBase L e.origin e.kind e.key b ∧ e.metric = (b + e.path.length) % 65536 :=
  (((inv_run_coherent _ ops (inv_init n mh L) hc).entries x e he).2 hp).2

/-- Holds in every history without third-party replays (CIDR, domain, forward and presence
    routes alike; any topology, any delivery order, duplicates, loss, cache expiry, stale cleanup). -/
theorem C13_partial (n mh : Nat) (L : Node → List RAd) (ops : List Op)
    (hb : benignRun (init n mh L) ops = true) (x : Node) (e : Entry)
    (he : e ∈ ((run (init n mh L) ops).nodes x).entries) (hp : e.path ≠ []) :
    ∃ b, IsBase L e.origin e.kind e.key b ∧ e.metric = (b + e.path.length) % 65536 :=
  (((run_induction_benign (P := Inv L) _ ops (inv_init n mh L) hb (fun _ _ hI hb =>
    inv_step hI (fun _ _ _ hop _ hm => benign_advOK hI (hop ▸ hb) hm))).entries x e he).2 hp).2

/-! ### refutation of the full statement (open finding C13-replay-mixed-paths)

  Six agents: 0 (exit for 10.1.0.0/16) — 1 — 4 and 0 — 3 — 2 — 4; later 4 — 5.  Agent 4 hears
  announcement 2 of agent 0 over the short side (presence route via 1: metric 2, path 1-0) and
  announcement 3 over the long side first (CIDR route replaced: metric 3, path 2-3-0).  When 5
  connects, SendFullTable(5) at agent 4 sends ONE advertisement for origin 0 with the CIDR route's
  path 4-2-3-0 and both presence routes; agent 5 records the presence route with metric 2+1 = 3
  and a 4-hop path. -/

def witnessLocals : Node → List RAd := fun x => if x = 0 then [⟨0, 1, 0⟩] else []

def witnessOps : List Op := [
  .connect 0 1, .connect 1 4, .connect 0 3, .connect 3 2, .connect 2 4,
  .announce 0 [], .deliver 0 1 0, .deliver 1 4 0,
  .announce 0 [], .deliver 0 3 1, .deliver 3 2 0, .deliver 2 4 0,
  .connect 4 5, .replay 4 5 [], .deliver 4 5 0]

def witnessEntry : Entry :=
  { kind := 3, key := 0, origin := 0, nextHop := 4, metric := 3, path := [4, 2, 3, 0], seq := 1, lu := 15 }

theorem witness_stored :
    witnessEntry ∈ ((run (init 6 0 witnessLocals) witnessOps).nodes 5).entries := by decide +kernel

theorem C13_refuted : ¬ C13_statement := by
  intro h
  obtain ⟨b, hb, hm⟩ := h 6 0 witnessLocals witnessOps 5 witnessEntry witness_stored (by decide)
  rcases hb with ⟨_, _, hb0⟩ | hb
  · subst hb0; revert hm; decide
  · simp [witnessLocals, witnessEntry] at hb

/-- The excluded region is real: the witness history contains a third-party replay. -/
example : benignRun (init 6 0 witnessLocals) witnessOps = false := by decide +kernel

/-- Vacuity check for `C13_partial`: a chain 0 - 1 - 2 - 3 (local exchange on every new link, then
    an announcement flooded hop by hop) is a benign history, and agent 3 ends up with the CIDR route
    of agent 0 at metric 5 + 3 over the 3-hop path 2-1-0. -/
def chainOps : List Op := [
  .connect 0 1, .replay 0 1 [], .replay 1 0 [], .connect 1 2, .connect 2 3,
  .announce 0 [], .deliver 0 1 1, .deliver 1 2 0, .deliver 2 3 0]

example : benignRun (init 4 0 (fun x => if x = 0 then [⟨0, 1, 5⟩] else [])) chainOps = true := by decide

example : (⟨0, 1, 0, 2, 8, [2, 1, 0], 3, 9⟩ : Entry) ∈
    ((run (init 4 0 (fun x => if x = 0 then [⟨0, 1, 5⟩] else [])) chainOps).nodes 3).entries := by decide +kernel

/-- Without u16 wrap-around the metric IS base + hops. -/
theorem C13_exact {b len metric : Nat} (h : metric = (b + len) % 65536) (hlt : b + len < 65536) :
    metric = b + len := h.trans (Nat.mod_eq_of_lt hlt)

/-- Hence, among two routes with the same base metric (equally specific routes advertised with the
    same configured metric), the one with the shorter recorded path has the smaller metric: the
    nearer exit is preferred by the lowest-metric rule of the tables (C08). -/
theorem C13_prefers_nearer {b m1 m2 l1 l2 : Nat} (h1 : m1 = (b + l1) % 65536) (h2 : m2 = (b + l2) % 65536)
    (hlt : b + l2 < 65536) (hl : l1 < l2) : m1 < m2 := by
  have hlt1 : b + l1 < b + l2 := Nat.add_lt_add_left hl b
  rw [h1, h2, Nat.mod_eq_of_lt hlt, Nat.mod_eq_of_lt (Nat.lt_trans hlt1 hlt)]
  exact hlt1

end MM.C13

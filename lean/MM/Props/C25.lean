/-
  C25 — Remote shell runs only authorised commands.

  "A remote shell request starts a process only if the shell is enabled and the password, when
   configured, matches.  Unless the whitelist is the wildcard, the command must be exactly a
   whitelisted base name and no argument may contain shell metacharacters or be an absolute
   path.  Concurrent sessions never exceed the configured maximum."

  Model: MM/Model/C25.lean (executor.go, statement by statement; tied by T-diff through an
  accessor on `validateAndAcquire`, the real `NewSession`/`NewPTYSession`, and the regenerated
  character class).  A process is started only after `validateAndAcquire` returned nil
  (executor.go NewSession, pty_unix.go NewPTYSession: first statement, early return on error).
-/
import MM.Lemmas.C25
import MM.Gen.LockC25

namespace MM.C25

/-- Admission implies every clause of the statement, for every configuration, request, counter
    value and every password predicate. -/
theorem C25_start_implies (pwOK : Bytes → Bytes → Bool) (c : Cfg) (m : Meta) (n : Int)
    (h : (validateAndAcquire pwOK c m n).1 = .ok) :
    c.enabled = true ∧
    (c.hash = [] ∨ (m.password ≠ [] ∧ pwOK c.hash m.password = true)) ∧
    (hasWildcard c = true ∨
      (m.command ∈ c.whitelist ∧ (0x2f : UInt8) ∉ m.command ∧ (0x5c : UInt8) ∉ m.command ∧
        ∀ a ∈ m.args, dangerous a = false ∧ isAbs a = false)) ∧
    (c.maxSessions > 0 → n < c.maxSessions) ∧
    (validateAndAcquire pwOK c m n).2 = n + 1 := by
  obtain ⟨hen, hau, hcmd, hargs, heq⟩ :=
    (validateAndAcquire_cases pwOK c m n).resolve_right (fun hrej => hrej.1 h)
  rw [heq] at h ⊢
  rcases acquire_cases c n with ⟨hacq, hlt⟩ | hacq
  · refine ⟨hen, hau, ?_, hlt, by rw [hacq]⟩
    cases hw : hasWildcard c with
    | true => exact Or.inl rfl
    | false =>
      have ⟨h1, h2, h3⟩ := isCommandAllowed_noWild hw hcmd
      exact Or.inr ⟨h1, h2, h3, hargs hw⟩
  · rw [hacq] at h
    cases h

/-- What RUNS is what was validated: the process gets exactly the request's command and arguments
    (tied to `exec.Cmd.Args` of the real sessions by the `argv` / `argvp` ops), so unless the
    whitelist is the wildcard every argument the process receives is free of metacharacters and
    not an absolute path, and argv[0] is the whitelisted base name. -/
theorem C25_runs_validated (pwOK : Bytes → Bytes → Bool) (c : Cfg) (m : Meta) (n : Int)
    (h : (validateAndAcquire pwOK c m n).1 = .ok) (hw : hasWildcard c = false) :
    (processArgv m).head? = some m.command ∧ m.command ∈ c.whitelist ∧
    ∀ a ∈ (processArgv m).tail, dangerous a = false ∧ isAbs a = false := by
  rcases (C25_start_implies pwOK c m n h).2.2.1 with hw' | ⟨hm, _, _, ha⟩
  · rw [hw] at hw'; cases hw'
  · exact ⟨rfl, hm, ha⟩

/-- Everything request-controlled that reaches `exec.Cmd` (tied by the `exec` / `execp` ops to
    `Cmd.Args`, `Cmd.Env`, `Cmd.Dir` of the real sessions): the validated argument vector — and,
    NOT validated by anything, the request's working directory and its environment pairs, appended
    after the agent's own environment (so they win).  The statement of C25 constrains command and
    arguments only; that `LD_PRELOAD=…`, `BASH_ENV=…` or an arbitrary absolute `work_dir` reach a
    whitelisted program is recorded here, not judged. -/
theorem C25_exec_surface (pty : Bool) (term : Bytes) (m : Meta) :
    (execSurface pty term m).argv = m.command :: m.args ∧
    (execSurface pty term m).dir = m.workDir ∧
    (∀ e ∈ m.env, e ∈ (execSurface pty term m).envExtra) ∧
    (∀ e ∈ (execSurface pty term m).envExtra, e ∈ m.env ∨ (pty = true ∧ e = "TERM=".toUTF8.toList ++ term)) := by
  refine ⟨rfl, rfl, fun e he => List.mem_append_right _ he, fun e he => ?_⟩
  rcases List.mem_append.mp he with h | h
  · cases pty with
    | true => exact Or.inr ⟨rfl, by simpa using h⟩
    | false => simp at h
  · exact Or.inl h

/-- A configured password hash that no password satisfies (in particular a string that is not a
    well-formed bcrypt hash: bcrypt.CompareHashAndPassword returns an error for every password)
    admits nothing.  The `reseth` scripts check that the real ValidateAuth refuses for each class of
    malformed hash (too short, plain text, unknown version, cost out of range, bad salt characters,
    truncated, trailing garbage) and for a well-formed hash of another password. -/
theorem C25_bad_hash_admits_nothing (pwOK : Bytes → Bytes → Bool) (c : Cfg) (m : Meta) (n : Int)
    (hh : c.hash ≠ []) (hbad : ∀ p, pwOK c.hash p = false) :
    (validateAndAcquire pwOK c m n).1 ≠ .ok := by
  intro h
  rcases (C25_start_implies pwOK c m n h).2.1 with h0 | ⟨_, h1⟩
  · exact hh h0
  · rw [hbad] at h1; cases h1

theorem C25_reject_keeps_counter (pwOK : Bytes → Bytes → Bool) (c : Cfg) (m : Meta) (n : Int)
    (h : (validateAndAcquire pwOK c m n).1 ≠ .ok) : (validateAndAcquire pwOK c m n).2 = n := by
  rcases validateAndAcquire_cases pwOK c m n with ⟨_, _, _, _, heq⟩ | ⟨_, hn⟩
  · rw [heq] at h ⊢
    rcases acquire_cases c n with ⟨hacq, _⟩ | hacq
    · rw [hacq] at h
      exact absurd rfl h
    · rw [hacq]
  · exact hn

theorem C25_empty_whitelist (pwOK : Bytes → Bytes → Bool) (c : Cfg) (m : Meta) (n : Int)
    (hw : c.whitelist = []) : (validateAndAcquire pwOK c m n).1 ≠ .ok := by
  intro h
  rcases (C25_start_implies pwOK c m n h).2.2.1 with hw' | ⟨hm, _⟩
  · simp [hasWildcard, hw] at hw'
  · simp [hw] at hm

/-- The documented shell metacharacters ``; & | $ ` ( ) { } [ ] < > \ ! * ? ~`` as byte values. -/
def metachars : List Nat := [59, 38, 124, 36, 96, 40, 41, 123, 125, 91, 93, 60, 62, 92, 33, 42, 63, 126]

/-- The regenerated character class is exactly that set. -/
theorem C25_class_exact :
    ∀ n, n < 256 → inClass Gen.C25.dangerousClass (UInt8.ofNat n) = metachars.contains n := by
  intro n hn
  have sound : ∀ r ∈ Gen.C25.dangerousClass, ∀ k, k ≤ r.2 → r.1 ≤ k → k ∈ metachars := by
    decide +kernel
  have complete : ∀ k ∈ metachars, ∃ r ∈ Gen.C25.dangerousClass, r.1 ≤ k ∧ k ≤ r.2 := by
    decide +kernel
  have hto : (UInt8.ofNat n).toNat = n := by rw [UInt8.toNat_ofNat']; omega
  rw [Bool.eq_iff_iff, inClass_iff, List.contains_iff_mem, hto]
  exact ⟨fun ⟨r, hr, h1, h2⟩ => sound r hr n h2 h1, complete n⟩

/-- Every interleaving of acquire / release critical sections: the counter equals the number of
    live sessions, and that number never exceeds a positive `MaxSessions`. -/
theorem C25_sessions_le_max (c : Cfg) (s : St) (h : Reachable c s) :
    s.counter = s.held ∧ (c.maxSessions > 0 → (s.held : Int) ≤ c.maxSessions) := by
  induction h with
  | init => exact ⟨rfl, Int.le_of_lt⟩
  | @step s t _ st ih =>
    cases st with
    | acquireOk hno => dsimp only; omega
    | acquireFail _ => exact ih
    | release hpos =>
      dsimp only [release]
      split <;> omega

/-! ### atomic-step tie (tools/lockshape.go)

`C25_sessions_le_max` quantifies over interleavings of two atomic steps: "check the limit and
increment" and "decrement".  That granularity is a fact about executor.go: the counter is touched
only inside `AcquireSession` / `ReleaseSession`, each of which takes `e.mu` once and holds it for
every access; `validateAndAcquire` reaches the counter only through `AcquireSession`. -/

theorem C25_counter_atomic :
    -- every access to `sessions` is made with the write lock held
    Gen.LockC25.accesses.all (fun a => a.2.2.2 == "W") = true ∧
    -- … and only from AcquireSession / ReleaseSession (never directly from validateAndAcquire)
    Gen.LockC25.accesses.all (fun a => a.1 == "Executor.AcquireSession" || a.1 == "Executor.ReleaseSession") = true ∧
    -- check-and-increment / decrement are ONE critical section each
    Gen.LockC25.acquisitions.all (fun a =>
      if a.1 == "Executor.AcquireSession" || a.1 == "Executor.ReleaseSession" then a.2 == 1 else a.2 == 0) = true ∧
    -- admission takes its slot by calling AcquireSession, and calls nothing else that could touch the counter
    Gen.LockC25.calls.any (fun c => c.1 == "Executor.validateAndAcquire" && c.2.1 == "AcquireSession") = true ∧
    Gen.LockC25.calls.all (fun c => c.1 != "Executor.validateAndAcquire" ||
      ["AcquireSession", "IsCommandAllowed", "ValidateArgs", "ValidateAuth", "hasWildcard"].contains c.2.1) = true := by
  decide +kernel

/-! Non-vacuity. -/

private def exCfg : Cfg := { enabled := true, whitelist := [[0x6c, 0x73]], hash := [], maxSessions := 2 }

example : (validateAndAcquire (fun _ _ => false) exCfg
    { command := [0x6c, 0x73], args := [[0x2d, 0x6c, 0x61]], password := [] } 1).1 = .ok := by decide

example : (validateAndAcquire (fun _ _ => false) exCfg
    { command := [0x6c, 0x73], args := [[0x61, 0x3b, 0x62]], password := [] } 1).1 = .dangerous 0 := by decide

example : (validateAndAcquire (fun _ _ => false) exCfg
    { command := [0x6c, 0x73], args := [], password := [] } 2).1 = .maxSessions := by decide

example : Reachable exCfg ⟨2, 2⟩ :=
  .step (.step .init (.acquireOk _ (by decide))) (.acquireOk _ (by decide))

end MM.C25

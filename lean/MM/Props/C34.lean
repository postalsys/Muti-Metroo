import MM.Lemmas.C34

/-!
  C34 — persistent agent state survives a crash at any point.

  `Reachable d s`: `s` is a data-directory state that process kills can produce, starting from
  an empty directory, at ANY point (call boundary or inside a `WriteFile`) of ANY sequence of
  agent starts (identity + keypair creation/recovery), sleep-state saves and explicit-id
  stores, each possibly killed and followed by further ones.  `derive` (public key of a
  private key) is an arbitrary function.

  The theorems are about the code after fixes/C34-keypair-rederive-pub.patch and
  fixes/C34-sleep-state-atomic.patch; `C34_old_*` keep the machine-checked witnesses of the
  two defects of the code before them.
-/
namespace MM.C34

inductive Reachable (d : Nat → Nat) : FS → Prop where
  | empty : Reachable d {}
  | crash (s s' : FS) (a : Action) : Reachable d s → s' ∈ crashStates s (actionOps d s a) → Reachable d s'

theorem reachable_good (d : Nat → Nat) (s : FS) (h : Reachable d s) : good d s = true := by
  induction h with
  | empty => rfl
  | crash s s' a _ hs' ih => exact good_preserved d s ih a s' hs'

/-- The run that is not killed is one of the crash states (so `Reachable` also contains every
    state after completed actions). -/
theorem applyAll_mem_crashStates (ops : List Op) : ∀ s, applyAll s ops ∈ crashStates s ops := by
  induction ops with
  | nil => intro s; simp [applyAll, crashStates]
  | cons op r ih => intro s; simp [applyAll, crashStates, ih]

/-- **The next start succeeds from every crash state.** -/
theorem C34_start_succeeds (d : Nat → Nat) (s : FS) (h : Reachable d s) (fi fk : Nat) :
    ∃ r, (start d s fi fk).1 = some r :=
  (start_loads d s (reachable_good d s h) fi fk).imp fun _ h => h.1

/-- Local form: whatever the process was doing in a good state when it was killed. -/
theorem C34_start_succeeds_after_crash (d : Nat → Nat) (s : FS) (hg : good d s = true) (a : Action)
    (s' : FS) (hs' : s' ∈ crashStates s (actionOps d s a)) (fi fk : Nat) :
    ∃ r, (start d s' fi fk).1 = some r :=
  (start_loads d s' (good_preserved d s hg a s' hs') fi fk).imp fun _ h => h.1

/-- **The identity is consistent**: the public key a start returns is the one derived from the
    private key it returns (in every state, reachable or not). -/
theorem C34_identity_consistent (d : Nat → Nat) (s : FS) (fi fk : Nat) (r : Started)
    (h : (start d s fi fk).1 = some r) : r.pub = d r.priv := by
  revert h
  fun_cases start d s fi fk
  · simp
  · simp
  · rename_i k p _ e
    rintro ⟨rfl⟩
    exact startKey_pub d s fk k p (by rw [e])

/-- Once the start has run to completion the directory holds exactly the identity it returned. -/
theorem C34_identity_stored (d : Nat → Nat) (s : FS) (hg : good d s = true) (fi fk : Nat) (r : Started)
    (h : (start d s fi fk).1 = some r) :
    let t := applyAll s (start d s fi fk).2
    t.id = some (.whole r.id) ∧ t.key = some (.whole r.priv) ∧ t.pub = some (.whole (d r.priv)) := by
  obtain ⟨i, k, o1, o2, e, hi, hk⟩ := start_good hg fi fk
  rw [e] at h ⊢
  cases h
  rcases hi with ⟨-, rfl, rfl⟩ | ⟨hi, rfl⟩ <;> rcases hk with ⟨-, rfl, rfl⟩ | ⟨hk, ⟨-, rfl⟩ | ⟨hp, rfl⟩⟩
  · exact ⟨rfl, rfl, rfl⟩
  · exact ⟨rfl, hk, rfl⟩
  · exact ⟨rfl, hk, hp⟩
  · exact ⟨hi, rfl, rfl⟩
  · exact ⟨hi, hk, rfl⟩
  · exact ⟨hi, hk, hp⟩

/-- **A private key that reached its final name is never replaced**: in every state a kill can
    leave — during a start, a save, an id store — the file still holds it and the next start
    loads it. -/
theorem C34_never_replaced (d : Nat → Nat) (s : FS) (hg : good d s = true) (k : Nat)
    (hk : s.key = some (.whole k)) (a : Action) (s' : FS)
    (hs' : s' ∈ crashStates s (actionOps d s a)) (fi fk : Nat) :
    s'.key = some (.whole k) ∧ ∃ r, (start d s' fi fk).1 = some r ∧ r.priv = k := by
  obtain ⟨hg', -, hkey, -⟩ := action_crash hg a s' hs'
  have hk' := (hkey (by simp [hk])).trans hk
  obtain ⟨r, hr, -, hp⟩ := start_loads d s' hg' fi fk
  exact ⟨hk', r, hr, hp k hk'⟩

/-- Same for the agent id (a start with an explicit id in the configuration stores that id on
    purpose, hence the exclusion). -/
theorem C34_id_never_replaced (d : Nat → Nat) (s : FS) (hg : good d s = true) (v : Nat)
    (hv : s.id = some (.whole v)) (a : Action) (ha : ∀ v', a ≠ .storeId v') (s' : FS)
    (hs' : s' ∈ crashStates s (actionOps d s a)) (fi fk : Nat) :
    s'.id = some (.whole v) ∧ ∃ r, (start d s' fi fk).1 = some r ∧ r.id = v := by
  obtain ⟨hg', hid, -, -⟩ := action_crash hg a s' hs'
  have hv' := (hid (by simp [hv]) ha).trans hv
  obtain ⟨r, hr, hi, -⟩ := start_loads d s' hg' fi fk
  exact ⟨hv', r, hr, hi v hv'⟩

/-- **Sleep state is the before- or the after-value** of an interrupted save. -/
theorem C34_sleep_before_or_after (s : FS) (w : Nat) (s' : FS)
    (hs' : s' ∈ crashStates s (persistOps s w)) :
    loadSleep s' = loadSleep s ∨ loadSleep s' = some w := by
  obtain ⟨t, ht, e⟩ := crash_obs _ s s' (persistOps_tmpOnly s w) hs'
  have e : s'.sl = t.sl := congrArg Obs.sl e
  rcases (prefix_persist s w t ht).2.2.2 with h | h
  · exact .inl (loadSleep_congr (e.trans h))
  · exact .inr (by rw [loadSleep, e, h]; rfl)

/-- A kill during anything else leaves it untouched. -/
theorem C34_sleep_untouched (d : Nat → Nat) (s : FS) (hg : good d s = true) (a : Action)
    (ha : ∀ w, a ≠ .persist w) (s' : FS) (hs' : s' ∈ crashStates s (actionOps d s a)) :
    loadSleep s' = loadSleep s :=
  loadSleep_congr ((action_crash hg a s' hs').2.2.2 ha)

/-- A completed save is loaded back. -/
theorem C34_sleep_saved (s : FS) (hd : s.dir = true) (w : Nat) :
    loadSleep (applyAll s (persistOps s w)) = some w := by
  rw [persistOps, if_pos hd]
  rfl

/-- Killed between the two renames of `Keypair.Store` during the very first start: the private
    key is there, the public key is not.  Reachable; the next start keeps key 7. -/
example : Reachable (fun n => n + 100) { dir := true, id := some (.whole 1), key := some (.whole 7) } :=
  .crash {} _ (.start 1 7) .empty (by decide +kernel)

example : (start (fun n => n + 100) { dir := true, id := some (.whole 1), key := some (.whole 7) } 2 8).1
    = some ⟨1, 7, 107, none⟩ := by decide

/-- Killed inside the write of the temp file of a sleep-state save. -/
example : ({ dir := true, sl := some (.whole 5), slT := some (.cut 9 3) } : FS) ∈
    crashStates { dir := true, sl := some (.whole 5) } (persistOps { dir := true, sl := some (.whole 5) } 9) := by
  decide

/-- Before the fix, the state "private key stored, public key not yet" — which a kill between
    the two renames of `Keypair.Store` leaves — made the next start generate a NEW key pair:
    stored private key 7 is replaced by 8. -/
theorem C34_old_key_replaced :
    let d := fun n => n + 100
    let s1 : FS := { dir := true, id := some (.whole 1), key := some (.whole 7) }
    s1 ∈ crashStates {} (startOld d {} 1 7).2 ∧
    (startOld d s1 2 8).1 = some ⟨1, 8, 108, none⟩ ∧
    (applyAll s1 (startOld d s1 2 8).2).key = some (.whole 8) := by
  decide +kernel

/-- Before the fix, a kill between the truncate and the write of the in-place `WriteFile` left
    an empty state file: the agent had saved 5, was saving 9, and loads neither. -/
theorem C34_old_sleep_torn :
    let s : FS := { dir := true, sl := some (.whole 5) }
    let s' : FS := { dir := true, sl := some (.cut 9 0) }
    s' ∈ crashStates s (persistOpsOld s 9) ∧ loadSleep s' ≠ loadSleep s ∧ loadSleep s' ≠ some 9 := by
  decide

end MM.C34

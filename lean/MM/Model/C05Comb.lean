/-
  Codec combinator library for the wire codecs of /repo/internal/protocol/frame.go (C05, C06).

  A `Codec α` packages, for one wire field or a composition of fields,
    * `enc`    – the bytes the Go `bufferWriter` produces,
    * `dec`    – the Go `bufferReader` as a parser: `none` = the sticky error was set,
                 `some (a, rest)` = value and the unread suffix,
    * `wf`     – executable "the value fits its wire field" predicate,
    * `toks` / `ofToks` – the canonical token rendering used by the line protocol
                 (numbers decimal, byte strings hex with `-` for empty, lists as count + items).
  Round-trip facts about the combinators are proved once in MM/Lemmas/C05Comb.lean and
  MM/Lemmas/C05Alloc.lean (`Codec.Sound`, `Codec.DecWF`, …, bundled as `Codec.Lawful`) and every
  message kind is a composition.
  Core Lean only.
-/
import MM.Model.Bytes

namespace MM.C05
open MM

structure Codec (α : Type) where
  enc : α → Bytes
  dec : Bytes → Option (α × Bytes)
  wf : α → Bool
  toks : α → List String
  ofToks : List String → Option (α × List String)
  /-- bytes of heap the Go decoder requests through `make`/`readBytes`/string conversions whose
      size is taken from the wire (a count or a length), while parsing this input — whether or
      not parsing succeeds.  An upper-bound trace: fixed-size copies are counted too. -/
  alloc : Bytes → Nat := fun _ => 0

/-- Encoding followed by any suffix parses back to the value and leaves the suffix. -/
def Codec.Sound (c : Codec α) : Prop :=
  ∀ a rest, c.wf a = true → c.dec (c.enc a ++ rest) = some (a, rest)

/-- Whatever the parser accepts is a well-formed value. -/
def Codec.DecWF (c : Codec α) : Prop :=
  ∀ bs a rest, c.dec bs = some (a, rest) → c.wf a = true

/-- The parser never invents input: the unread rest is no longer than the input. -/
def Codec.Shrinks (c : Codec α) : Prop :=
  ∀ bs a rest, c.dec bs = some (a, rest) → rest.length ≤ bs.length

/-! ### primitives -/

/-- `k`-byte big-endian unsigned integer (`writeUint8/16/32/64`, `readUint8/16/32/64`).
    Encoding truncates modulo `256^k` exactly as Go's `uintN(x)` conversion does. -/
def be (k : Nat) : Codec Nat where
  enc n := beN k n
  dec bs := if k ≤ bs.length then some (unbe (bs.take k), bs.drop k) else none
  wf n := decide (n < 256 ^ k)
  toks n := [toString n]
  ofToks
    | t :: r => t.toNat?.map (·, r)
    | [] => none

/-- `writeBool` / `readBool` (`!= 0`). -/
def bool : Codec Bool where
  enc b := [if b then 1 else 0]
  dec
    | x :: r => some (x != 0, r)
    | [] => none
  wf _ := true
  toks b := [if b then "1" else "0"]
  ofToks
    | t :: r => some (t == "1", r)
    | [] => none

/-- Exactly `n` raw bytes (`writeBytes` of a fixed-size field, `readBytes(n)`, `readAgentID`,
    `readEphemeralKey`). -/
def bytesN (n : Nat) : Codec Bytes where
  enc b := b
  dec bs := if n ≤ bs.length then some (bs.take n, bs.drop n) else none
  wf b := b.length == n
  toks b := [hexTok b]
  ofToks
    | t :: r => (bytesOfHex t).map (·, r)
    | [] => none
  alloc bs := if n ≤ bs.length then n else 0

/-- Byte string with a `k`-byte big-endian length prefix (`writeString` for k = 1;
    `writeUint16(len) + writeBytes` for k = 2; …).  The length prefix wraps like Go's
    `uintN(len(s))`. -/
def lp (k : Nat) : Codec Bytes where
  enc s := beN k s.length ++ s
  dec bs :=
    if k ≤ bs.length then
      let n := unbe (bs.take k)
      let r := bs.drop k
      if n ≤ r.length then some (r.take n, r.drop n) else none
    else none
  wf s := decide (s.length < 256 ^ k)
  toks b := [hexTok b]
  ofToks
    | t :: r => (bytesOfHex t).map (·, r)
    | [] => none
  alloc bs :=
    if k ≤ bs.length then
      let n := unbe (bs.take k)
      if n ≤ (bs.drop k).length then n else 0
    else 0

/-- A field that *includes* its own one-byte length prefix (SOCKS-style domain address,
    domain route prefix): the decoder peeks the first byte `b` and takes `1 + b` bytes. -/
def peek1 : Codec Bytes where
  enc a := a
  dec
    | [] => none
    | b :: r => if b.toNat ≤ r.length then some (b :: r.take b.toNat, r.drop b.toNat) else none
  wf
    | [] => false
    | b :: t => b.toNat == t.length
  toks b := [hexTok b]
  ofToks
    | t :: r => (bytesOfHex t).map (·, r)
    | [] => none
  alloc
    | [] => 0
    | b :: r => if b.toNat ≤ r.length then 1 + b.toNat else 0

/-- Forward-route prefix `[keyLen][key][targetLen][target]`, peeked the way
    `DecodeRouteAdvertise` does (`AddrFamilyForward`). -/
def fwdPrefix : Codec Bytes where
  enc a := a
  dec
    | [] => none
    | k :: r =>
      match r.drop k.toNat with
      | [] => none
      | t :: r2 =>
        if t.toNat ≤ r2.length then
          some (k :: (r.take k.toNat ++ t :: r2.take t.toNat), r2.drop t.toNat)
        else none
  wf
    | [] => false
    | k :: r =>
      match r.drop k.toNat with
      | [] => false
      | t :: r2 => t.toNat == r2.length
  toks b := [hexTok b]
  ofToks
    | t :: r => (bytesOfHex t).map (·, r)
    | [] => none
  alloc
    | [] => 0
    | k :: r =>
      match r.drop k.toNat with
      | [] => 0
      | t :: r2 => if t.toNat ≤ r2.length then 1 + k.toNat + 1 + t.toNat else 0

/-- A codec that never parses and has no well-formed values (unknown address type). -/
def failC : Codec Bytes where
  enc a := a
  dec _ := none
  wf _ := false
  toks b := [hexTok b]
  ofToks
    | t :: r => (bytesOfHex t).map (·, r)
    | [] => none

/-! ### combinators -/

def seq (a : Codec α) (b : Codec β) : Codec (α × β) where
  enc p := a.enc p.1 ++ b.enc p.2
  dec bs :=
    match a.dec bs with
    | none => none
    | some (x, r) =>
      match b.dec r with
      | none => none
      | some (y, r') => some ((x, y), r')
  wf p := a.wf p.1 && b.wf p.2
  toks p := a.toks p.1 ++ b.toks p.2
  ofToks ts :=
    match a.ofToks ts with
    | none => none
    | some (x, r) =>
      match b.ofToks r with
      | none => none
      | some (y, r') => some ((x, y), r')
  alloc bs := a.alloc bs + (match a.dec bs with
    | some (_, r) => b.alloc r
    | none => 0)

/-- Second field's layout depends on the first (address type → address layout). -/
def dep (a : Codec τ) (f : τ → Codec β) : Codec (τ × β) where
  enc p := a.enc p.1 ++ (f p.1).enc p.2
  dec bs :=
    match a.dec bs with
    | none => none
    | some (x, r) =>
      match (f x).dec r with
      | none => none
      | some (y, r') => some ((x, y), r')
  wf p := a.wf p.1 && (f p.1).wf p.2
  toks p := a.toks p.1 ++ (f p.1).toks p.2
  ofToks ts :=
    match a.ofToks ts with
    | none => none
    | some (x, r) =>
      match (f x).ofToks r with
      | none => none
      | some (y, r') => some ((x, y), r')
  alloc bs := a.alloc bs + (match a.dec bs with
    | some (x, r) => (f x).alloc r
    | none => 0)

/-- Exactly `n` items, one after the other (the loop `for i := 0; i < n && r.err == nil`). -/
def repDec (c : Codec α) : Nat → Bytes → Option (List α × Bytes)
  | 0, bs => some ([], bs)
  | n+1, bs =>
    match c.dec bs with
    | none => none
    | some (x, r) =>
      match repDec c n r with
      | none => none
      | some (xs, r') => some (x :: xs, r')

def repToks (c : Codec α) : Nat → List String → Option (List α × List String)
  | 0, ts => some ([], ts)
  | n+1, ts =>
    match c.ofToks ts with
    | none => none
    | some (x, r) =>
      match repToks c n r with
      | none => none
      | some (xs, r') => some (x :: xs, r')

def encAll (c : Codec α) (l : List α) : Bytes := (l.map c.enc).flatten

/-- allocation of the item loop: every item started, up to the first that fails -/
def repAlloc (c : Codec α) : Nat → Bytes → Nat
  | 0, _ => 0
  | n+1, bs => c.alloc bs + (match c.dec bs with
    | some (_, r) => repAlloc c n r
    | none => 0)

/-- List with a `k`-byte count prefix (`writeAgentIDs`, route lists, capability lists). The
    count wraps modulo `256^k` on encoding, as `uint8(len(x))` does. -/
def listN (k : Nat) (c : Codec α) (esz : Nat := 16) : Codec (List α) where
  enc l := beN k l.length ++ encAll c l
  dec bs :=
    if k ≤ bs.length then repDec c (unbe (bs.take k)) (bs.drop k) else none
  wf l := decide (l.length < 256 ^ k) && l.all c.wf
  toks l := toString l.length :: (l.map c.toks).flatten
  ofToks
    | t :: r => match t.toNat? with
      | some n => repToks c n r
      | none => none
    | [] => none
  -- `make([]T, count)` with `esz = sizeof(T)` BEFORE the items are read, then the items
  alloc bs :=
    if k ≤ bs.length then esz * unbe (bs.take k) + repAlloc c (unbe (bs.take k)) (bs.drop k) else 0

/-- Accept only values satisfying `p` (a nested decode that must succeed, e.g. the plaintext
    path inside `EncryptedData`). -/
def refine (c : Codec α) (p : α → Bool) (nested : α → Nat := fun _ => 0) : Codec α where
  enc := c.enc
  dec bs :=
    match c.dec bs with
    | none => none
    | some (x, r) => if p x then some (x, r) else none
  wf a := c.wf a && p a
  toks := c.toks
  ofToks := c.ofToks
  -- `nested x`: what the nested decode that computes `p x` allocates
  alloc bs := c.alloc bs + (match c.dec bs with
    | some (x, _) => nested x
    | none => 0)

/-- Encoder-side normalisation (`if len(msg) > 255 { msg = msg[:255] }`). -/
def preEnc (c : Codec α) (norm : α → α) : Codec α where
  enc a := c.enc (norm a)
  dec := c.dec
  wf a := c.wf a && (c.enc (norm a) == c.enc a)
  toks := c.toks
  ofToks := c.ofToks
  alloc := c.alloc

/-- Top-level message decoder: minimum-length pre-check, parse, ignore trailing bytes. -/
def decodeTop (minLen : Nat) (c : Codec α) (bs : Bytes) : Option α :=
  if bs.length < minLen then none else (c.dec bs).map (·.1)

/-- allocation of a top-level decoder: nothing is read below the minimum length -/
def decodeTopAlloc (minLen : Nat) (c : Codec α) (bs : Bytes) : Nat :=
  if bs.length < minLen then 0 else c.alloc bs

end MM.C05

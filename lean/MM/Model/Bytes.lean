/-
  Shared byte-string library: `Bytes := List UInt8`, fixed-width little/big
  endian integer codecs with round-trip lemmas, hex rendering for the line
  protocol.  Core Lean only (the driver links against this).
-/
namespace MM

abbrev Bytes := List UInt8

/-- `k` little-endian bytes of `n` (value taken modulo `256^k`, as Go's `PutUintNN` does on the
    already-truncated unsigned value). -/
def leN : Nat → Nat → Bytes
  | 0, _ => []
  | k+1, n => UInt8.ofNat (n % 256) :: leN k (n / 256)

/-- Little-endian value of a byte string. -/
def unle : Bytes → Nat
  | [] => 0
  | b :: bs => b.toNat + 256 * unle bs

def beN (k n : Nat) : Bytes := (leN k n).reverse
def unbe (bs : Bytes) : Nat := unle bs.reverse

@[simp] theorem leN_length (k n : Nat) : (leN k n).length = k := by
  induction k generalizing n with
  | zero => rfl
  | succ k ih => simp [leN, ih]

@[simp] theorem beN_length (k n : Nat) : (beN k n).length = k := by simp [beN]

theorem UInt8.toNat_ofNat_of_lt {n : Nat} (h : n < 256) : (UInt8.ofNat n).toNat = n :=
  UInt8.toNat_ofNat_of_lt' h

theorem unle_leN (k n : Nat) : unle (leN k n) = n % 256 ^ k := by
  induction k generalizing n with
  | zero => simp [leN, unle, Nat.mod_one]
  | succ k ih =>
    simp only [leN, unle, ih, UInt8.toNat_ofNat', Nat.reducePow, Nat.mod_mod]
    rw [Nat.pow_succ, Nat.mul_comm (256 ^ k) 256, Nat.mod_mul]

theorem unle_leN_of_lt {k n : Nat} (h : n < 256 ^ k) : unle (leN k n) = n := by
  rw [unle_leN, Nat.mod_eq_of_lt h]

theorem unbe_beN (k n : Nat) : unbe (beN k n) = n % 256 ^ k := by
  simp [unbe, beN, unle_leN]

theorem unbe_beN_of_lt {k n : Nat} (h : n < 256 ^ k) : unbe (beN k n) = n := by
  rw [unbe_beN, Nat.mod_eq_of_lt h]

theorem unle_lt (bs : Bytes) : unle bs < 256 ^ bs.length := by
  induction bs with
  | nil => simp [unle]
  | cons b bs ih =>
    simp only [unle, List.length_cons, Nat.pow_succ]
    have := b.toNat_lt
    omega

theorem unbe_lt (bs : Bytes) : unbe bs < 256 ^ bs.length := by
  simpa [unbe] using unle_lt bs.reverse

theorem leN_unle (bs : Bytes) : leN bs.length (unle bs) = bs := by
  induction bs with
  | nil => rfl
  | cons b bs ih =>
    have hb : b.toNat < 256 := b.toNat_lt
    rw [List.length_cons, unle, leN, Nat.add_mul_mod_self_left, Nat.mod_eq_of_lt hb,
      Nat.add_mul_div_left _ _ (by decide), Nat.div_eq_of_lt hb, Nat.zero_add, ih, UInt8.ofNat_toNat]

theorem beN_unbe (bs : Bytes) : beN bs.length (unbe bs) = bs := by
  have := leN_unle bs.reverse
  rw [List.length_reverse] at this
  rw [beN, unbe, this, List.reverse_reverse]

/-! ### hex rendering (line protocol) -/

def hexDigit (n : Nat) : Char :=
  if n < 10 then Char.ofNat (48 + n) else Char.ofNat (87 + n)

def hexOfBytes (bs : Bytes) : String :=
  String.ofList (bs.flatMap fun b => [hexDigit (b.toNat / 16), hexDigit (b.toNat % 16)])

def hexVal (c : Char) : Option Nat :=
  if '0' ≤ c ∧ c ≤ '9' then some (c.toNat - 48)
  else if 'a' ≤ c ∧ c ≤ 'f' then some (c.toNat - 87)
  else if 'A' ≤ c ∧ c ≤ 'F' then some (c.toNat - 55)
  else none

def bytesOfHexChars : List Char → Option Bytes
  | [] => some []
  | [_] => none
  | a :: b :: rest => do
    let x ← hexVal a
    let y ← hexVal b
    let r ← bytesOfHexChars rest
    pure (UInt8.ofNat (16 * x + y) :: r)

/-- `-` denotes the empty byte string on the wire (so every field is a non-empty token). -/
def bytesOfHex (s : String) : Option Bytes :=
  if s = "-" then some [] else bytesOfHexChars s.toList

def hexTok (bs : Bytes) : String := if bs.isEmpty then "-" else hexOfBytes bs

end MM

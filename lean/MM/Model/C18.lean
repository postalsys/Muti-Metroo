/-
  C18 — model of `stream.Stream` / `stream.Manager.HandleStreamData` (internal/stream/manager.go)
  as a labelled transition system whose atomic steps are exactly the lock-protected regions,
  channel operations and `select` statements of the Go code.

  Threads:
    * the frame handler (frames of one peer are dispatched sequentially): for every frame the list
      of its sub-steps (`program`) is executed in code order, other threads may run in between;
    * one reader looping over `Stream.Read` (first non-blocking select, blocking select, inner drain);
    * the local side: `CloseWrite`, `Close` at any time once the stream is open.

  `ff = false` is the order of the repaired code (payload queued, then FIN signalled);
  `ff = true` is the order of the pinned code (FIN signalled, then payload queued) and is kept only
  to exhibit the defect (`C18_finfirst_loses_data`).

  Chunks are abstract (`α`); an empty payload is `none` (`len(data) == 0` in Go).
-/
namespace MM.C18

/-- `cap(readBuffer)` — tied to the source by MM/Gen/C18.lean. -/
def cap : Nat := 64

inductive St | opening | open_ | hcl | hcr | closed
  deriving DecidableEq, Repr, Inhabited

structure Stream (α : Type) where
  state : St := .open_
  localFin : Bool := false    -- localFinWrite
  remoteFin : Bool := false   -- remoteFinWrite
  finCh : Bool := false       -- remoteFinCh has been closed
  once : Bool := false        -- closeOnce has been entered
  closed : Bool := false      -- `closed` channel has been closed
  buf : List α := []          -- readBuffer (FIFO)
  deriving Repr

namespace Stream
variable {α : Type}

/-- `CloseWrite` (one critical section). -/
def closeWrite (s : Stream α) : Stream α :=
  if s.localFin then s else
    match s.state with
    | .open_ => { s with localFin := true, state := .hcl }
    | .hcr => { s with localFin := true, state := .closed }
    | _ => { s with localFin := true }

/-- `HandleRemoteFinWrite`, third critical section (state update). -/
def finState (s : Stream α) : Stream α :=
  match s.state with
  | .open_ => { s with state := .hcr }
  | .hcl => { s with state := .closed }
  | _ => s

/-- `Close`, inside `closeOnce`: `SetState(StateClosed)`. -/
def closeBegin (s : Stream α) : Stream α :=
  if s.once then s else { s with once := true, state := .closed }

def canWrite (s : Stream α) : Bool := s.state == .open_ || s.state == .hcr
def canRead (s : Stream α) : Bool := s.state == .open_ || s.state == .hcl

end Stream

inductive Frame (α : Type)
  | data (fin : Bool) (p : Option α)
  | close
  | reset
  deriving Repr

/-- Sub-steps of handling one frame. -/
inductive Micro (α : Type)
  | pushChk (p : α)   -- first select of PushData: `<-closed` ready → io.EOF
  | pushEnq (p : α)   -- second select of PushData
  | finMark           -- HandleRemoteFinWrite: first critical section
  | finSignal         -- close(remoteFinCh)
  | finState          -- HandleRemoteFinWrite: state update
  | unreg             -- RemoveStream / HandleStreamReset: delete(m.streams, id)
  | closeB            -- stream.Close()
  deriving Repr

def Micro.isFin {α} : Micro α → Bool
  | .finMark | .finSignal | .finState => true
  | _ => false

def pushPart {α} : Option α → List (Micro α)
  | none => []
  | some p => [.pushChk p, .pushEnq p]

def finPart {α} (fin : Bool) : List (Micro α) :=
  if fin then [.finMark, .finSignal, .finState] else []

/-- Code order of `HandleStreamData` / `HandleStreamClose` / `HandleStreamReset`. -/
def program {α} (ff : Bool) : Frame α → List (Micro α)
  | .data fin p => if ff then finPart fin ++ pushPart p else pushPart p ++ finPart fin
  | .close => [.unreg, .closeB]
  | .reset => [.unreg, .closeB]

inductive RPc | idle | sel | drain
  deriving DecidableEq, Repr

structure Sys (α : Type) where
  s : Stream α := {}
  reg : Bool := true             -- stream is in Manager.streams
  frames : List (Frame α) := []  -- frames still to arrive
  todo : List (Micro α) := []    -- rest of the frame being handled
  rpc : RPc := .idle
  -- ghost (history) variables
  pushed : List α := []          -- chunks accepted by PushData
  delivered : List α := []       -- chunks returned by Read
  arrived : List α := []         -- non-empty payloads of data frames that reached the stream
  arrivedAtFin : Option (List α) := none  -- `arrived` when the first FIN frame reached the stream (its payload included)
  dropped : Bool := false        -- some PushData returned io.EOF
  eof : Option (List α × Bool) := none    -- first EOF returned by Read: (delivered so far, `closed` at that time)
  deriving Repr

inductive Label
  | hNext | hStep | hAbort
  | rStart | rSelData | rSelFin | rSelClosed | rDrain
  | ack | lCloseWrite | lClose | closeEnd
  deriving DecidableEq, Repr

variable {α : Type}

def deliver (x : Sys α) (c : α) (b : List α) : Sys α :=
  { x with s := { x.s with buf := b }, delivered := x.delivered ++ [c], rpc := .idle }

/-- Next frame is taken off the wire (only when the previous one is fully handled). -/
def stepNext (ff : Bool) (x : Sys α) : Option (Sys α) :=
  match x.todo, x.frames with
  | [], f :: fs =>
    if x.reg then
      match f with
      | .data fin p =>
        let arr := match p with | none => x.arrived | some c => x.arrived ++ [c]
        some { x with frames := fs, todo := program ff f, arrived := arr,
                      arrivedAtFin := if fin && x.arrivedAtFin.isNone then some arr else x.arrivedAtFin }
      | _ => some { x with frames := fs, todo := program ff f }
    else some { x with frames := fs }   -- "unknown stream" / nothing to remove
  | _, _ => none

/-- One sub-step of the current frame. -/
def stepMicro (x : Sys α) : Option (Sys α) :=
  match x.todo with
  | [] => none
  | .pushChk _ :: t =>
    if x.s.closed then some { x with todo := [], dropped := true } else some { x with todo := t }
  | .pushEnq p :: t =>
    if x.s.buf.length < cap then
      some { x with s := { x.s with buf := x.s.buf ++ [p] }, pushed := x.pushed ++ [p], todo := t }
    else none
  | .finMark :: t =>
    if x.s.remoteFin then some { x with todo := t.drop 2 }
    else some { x with s := { x.s with remoteFin := true }, todo := t }
  | .finSignal :: t => some { x with s := { x.s with finCh := true }, todo := t }
  | .finState :: t => some { x with s := x.s.finState, todo := t }
  | .unreg :: t => some { x with reg := false, todo := t }
  | .closeB :: t => some { x with s := x.s.closeBegin, todo := t }

/-- Second select of PushData chooses `<-closed`. -/
def stepAbort (x : Sys α) : Option (Sys α) :=
  match x.todo with
  | .pushEnq _ :: _ => if x.s.closed then some { x with todo := [], dropped := true } else none
  | _ => none

def step (ff : Bool) (x : Sys α) : Label → Option (Sys α)
  | .hNext => stepNext ff x
  | .hStep => stepMicro x
  | .hAbort => stepAbort x
  | .rStart =>
    if x.rpc = .idle then
      match x.s.buf with
      | c :: b => some (deliver x c b)
      | [] => some { x with rpc := .sel }
    else none
  | .rSelData =>
    if x.rpc = .sel then
      match x.s.buf with
      | c :: b => some (deliver x c b)
      | [] => none
    else none
  | .rSelFin => if x.rpc = .sel ∧ x.s.finCh = true then some { x with rpc := .drain } else none
  | .rSelClosed => if x.rpc = .sel ∧ x.s.closed = true then some { x with rpc := .drain } else none
  | .rDrain =>
    if x.rpc = .drain then
      match x.s.buf with
      | c :: b => some (deliver x c b)
      | [] => some { x with rpc := .idle,
                            eof := match x.eof with | some e => some e | none => some (x.delivered, x.s.closed) }
    else none
  | .ack =>
    if x.s.state = .opening then some { x with s := { x.s with state := .open_ }, reg := true } else none
  | .lCloseWrite => if x.s.state = .opening then none else some { x with s := x.s.closeWrite }
  | .lClose => if x.s.state = .opening then none else some { x with s := x.s.closeBegin }
  | .closeEnd =>
    if x.s.once = true ∧ x.s.closed = false then some { x with s := { x.s with closed := true } } else none

/-- Initial states: a stream just accepted (`AcceptStream`: open and registered) or just created by
    `OpenStream` (opening, not yet registered), with any list of frames still to arrive. -/
def init (accepted : Bool) (frames : List (Frame α)) : Sys α :=
  if accepted then { frames := frames }
  else { s := { state := .opening }, reg := false, frames := frames }

inductive Reachable (ff : Bool) : Sys α → Prop
  | init (accepted : Bool) (frames : List (Frame α)) : Reachable ff (init accepted frames)
  | step {x y : Sys α} (l : Label) : Reachable ff x → step ff x l = some y → Reachable ff y

/-- Run a schedule (used by the engine and by concrete witnesses). -/
def run (ff : Bool) : Sys α → List Label → Option (Sys α)
  | x, [] => some x
  | x, l :: ls => match step ff x l with
    | some y => run ff y ls
    | none => none

theorem run_reachable {ff : Bool} {x y : Sys α} (ls : List Label)
    (hx : Reachable ff x) (h : run ff x ls = some y) : Reachable ff y := by
  induction ls generalizing x with
  | nil => cases h; exact hx
  | cons l ls ih =>
    rw [run] at h
    split at h
    · next z hz => exact ih (.step l hx hz) h
    · cases h

/-- Payloads still to be queued by the current frame. -/
def pendOf : List (Micro α) → List α
  | [] => []
  | .pushEnq p :: t => p :: pendOf t
  | _ :: t => pendOf t

/-- Documented edges of the stream state machine (Architecture.md section 7.1) plus "stay". -/
def edge : St → St → Bool
  | a, b => a == b ||
    match a, b with
    | .opening, .open_ => true
    | .open_, .hcl => true
    | .open_, .hcr => true
    | .hcl, .closed => true
    | .hcr, .closed => true
    | _, .closed => true      -- Close / STREAM_CLOSE / STREAM_RESET from any state
    | _, _ => false

/-! ### the manager: streams keyed by stream id -/

/-- `Manager.streams` with everything the harness tracks per stream. -/
abbrev Mgr (α : Type) := List (Nat × Sys α)

def Mgr.get (m : Mgr α) (id : Nat) : Option (Sys α) := m.lookup id

/-- Replace / insert the record of stream `id`. -/
def Mgr.set (m : Mgr α) (id : Nat) (x : Sys α) : Mgr α :=
  (id, x) :: m.filter (fun e => e.1 != id)

/-- Apply an operation addressed to stream `id` (no-op when the id is unknown). -/
def Mgr.upd (m : Mgr α) (id : Nat) (f : Sys α → Sys α) : Mgr α :=
  match m.get id with
  | some x => m.set id (f x)
  | none => m

end MM.C18
